import Binson.Spec.Value
import Binson.Spec.Decode
import Binson.Spec.Render
import Binson.Spec.Cursor
import Binson.Spec.Canon
import Binson.Model.Types
import Binson.Model.Parser
import Binson.Model.Api
import Binson.Model.Counted
import Binson.Model.Writer
import Binson.Model.Fmt
import Binson.Model.Print
import Binson.Model.Transcribe
import Binson.Model.Cpp
import Binson.Generated.Consts
import Binson.Generated.Masks
import Binson.Bridge
import Binson.Lemmas.L0
import Binson.Lemmas.DecodeRef
import Binson.Lemmas.Views
import Binson.Lemmas.StaticGraph
import Binson.Lemmas.WriterLemmas
import Binson.Lemmas.PrintLemmas
import Binson.Lemmas.ToStringLemmas
import Binson.Lemmas.Shape
import Binson.Lemmas.Classify
import Binson.Lemmas.Cases
import Binson.Lemmas.Iter
import Binson.Lemmas.Advance
import Binson.Lemmas.Safe
import Binson.Lemmas.Latch
import Binson.Lemmas.Counted
import Binson.Props.C01
import Binson.Props.C04
import Binson.Props.C05
import Binson.Props.C09
import Binson.Props.C12
import Binson.Props.C13
import Binson.Props.C14
import Binson.Props.C16
import Binson.Props.C17
import Binson.Lemmas.Tokens
import Binson.Lemmas.PassDefs
import Binson.Lemmas.PassTok
import Binson.Lemmas.Pass
import Binson.Lemmas.PassInd
import Binson.Lemmas.PassRoot
import Binson.Lemmas.VerifyValid
import Binson.Props.C02
import Binson.Lemmas.VerifySoundCtx
import Binson.Lemmas.VerifySoundLex
import Binson.Lemmas.VerifySoundNeg
import Binson.Lemmas.VerifySoundInv
import Binson.Lemmas.DepthCode
import Binson.Lemmas.NavDefs
import Binson.Lemmas.StreamDefs
import Binson.Lemmas.CppSerMap
import Binson.Lemmas.CppSerRun
import Binson.Lemmas.CppSer
import Binson.Props.C15
import Binson.Lemmas.StreamIter
import Binson.Lemmas.StreamTok
import Binson.Lemmas.StreamInv
import Binson.Lemmas.StreamStep
import Binson.Lemmas.StreamStep2
import Binson.Lemmas.StreamLoop
import Binson.Lemmas.Stream
import Binson.Props.C08
import Binson.Lemmas.Nav
import Binson.Lemmas.NavCur
import Binson.Lemmas.NavInv
import Binson.Lemmas.NavItem
import Binson.Lemmas.NavLeave
import Binson.Lemmas.NavOpBase
import Binson.Lemmas.NavOpEnter
import Binson.Lemmas.NavOpLeave
import Binson.Lemmas.NavOpNext
import Binson.Lemmas.NavOpValue
import Binson.Lemmas.NavOps
import Binson.Lemmas.NavRaw
import Binson.Lemmas.NavRun
import Binson.Lemmas.NavScalar
import Binson.Lemmas.NavSkip
import Binson.Lemmas.NavSpec
import Binson.Lemmas.NavValue
import Binson.Lemmas.NavRunDefs
import Binson.Props.C06
import Binson.Lemmas.NavCor
import Binson.Lemmas.NavCorBase
import Binson.Lemmas.NavCorLookup
import Binson.Lemmas.NavCorNames
import Binson.Lemmas.NavCorRaw
import Binson.Lemmas.Walk
import Binson.Lemmas.WalkBal
import Binson.Lemmas.WalkCur
import Binson.Lemmas.WalkDes
import Binson.Lemmas.WalkDesTop
import Binson.Lemmas.WalkIff
import Binson.Lemmas.WalkModeEnter
import Binson.Lemmas.WalkModeLA
import Binson.Lemmas.WalkModeLO
import Binson.Lemmas.WalkModeV
import Binson.Lemmas.WalkRaw
import Binson.Lemmas.VerifySound
import Binson.Lemmas.WalkTr
import Binson.Lemmas.WalkTrTop
import Binson.Lemmas.Cost
import Binson.Lemmas.CostAdvance
import Binson.Lemmas.CostCalls
import Binson.Lemmas.CostLookup
import Binson.Lemmas.CostRun
import Binson.Props.C03
import Binson.Props.C07
import Binson.Props.C10
import Binson.Props.C11
import Binson.Lemmas.WriterProps
import Binson.Spec.WriterSpec
import Binson.Lemmas.OracleSpec
import Binson.Model.WriterX
import Binson.Lemmas.WriterXLemmas
