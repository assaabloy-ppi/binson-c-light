/-
  C08: one pass through the loop body from a state satisfying the invariant `ZG`, in
  EVERY scan mode - BEGIN and END tokens. A token is either consumed, and the context is
  extended by it, or (in a mode that does not take it) left where it is.
-/
import Binson.Lemmas.StreamInv
import Binson.Lemmas.VerifySoundNeg
namespace Binson

theorem valPos_of {buf : Array UInt8} {L : Level} {g : Grp} {D : Nat} (h : LvOk buf L g true) (hg : GrpOk D g)
    (hp : g.arrs = [] → ∃ n, g.pend = some n) : ValPos L.flags := by
  rcases h.cases hg with ⟨_, h2, _⟩ | ⟨_, _, h3, _, _⟩ | ⟨h1, h2, _⟩
  · rcases h2 with h2 | h2
    · exact Or.inr (Or.inl h2)
    · exact Or.inr (Or.inr (Or.inl h2))
  · exact Or.inl h3
  · obtain ⟨n, hn⟩ := hp h1
    rw [h2] at hn; cases hn

theorem expField_of {buf : Array UInt8} {L : Level} {g : Grp} {D : Nat} (h : LvOk buf L g true) (hg : GrpOk D g)
    (hnp : ¬ (g.arrs = [] → ∃ n, g.pend = some n)) : L.flags = .expField ∧ g.arrs = [] ∧ g.pend = none ∧ g.virt = false := by
  rcases h.cases hg with ⟨h1, _⟩ | ⟨_, h2, _⟩ | ⟨h1, h2, h3, _, h5⟩
  · exact absurd (fun h => absurd h h1) hnp
  · exact absurd (fun _ => h2) hnp
  · exact ⟨h3, h1, h2, h5⟩

theorem ValAfter.arr {f f' : Flags} (h : ValAfter f f') (hf : f = .arr1 ∨ f = .arr2) : f' = .arr1 ∨ f' = .arr2 := by
  rcases h with ⟨h1, _⟩ | ⟨_, h2⟩ | ⟨h1, _⟩
  · rcases hf with e | e <;> rw [e] at h1 <;> cases h1
  · exact h2
  · rcases hf with e | e <;> rw [e] at h1 <;> cases h1

theorem ValAfter.obj {f f' : Flags} (h : ValAfter f f') (hf : f = .expValue) : f' = .expField := by
  rcases h with ⟨_, h2⟩ | ⟨h1, _⟩ | ⟨h1, _⟩
  · exact h2
  · rcases h1 with e | e <;> rw [e] at hf <;> cases hf
  · rw [h1] at hf; cases hf

/-- the entry of the innermost group once a value has been read in value position -/
theorem LvOk.afterValue {buf : Array UInt8} {L L' : Level} {g : Grp} (h : LvOk buf L g true)
    (hp : g.arrs = [] → ∃ n, g.pend = some n) (had : L'.ad = L.ad) (hnm : L'.name = L.name) (hfl : ValAfter L.flags L'.flags) :
    L'.ad = g.arrs.length ∧ (g.arrs ≠ [] → (L'.flags = .arr1 ∨ L'.flags = .arr2)) ∧ (g.arrs = [] → L'.flags = .expField) ∧
    (g.virt = false → L'.name.map (sliceB buf) = lastName g) := by
  refine ⟨had.trans h.ad, fun hne => hfl.arr (h.arrFlags hne), fun ha => ?_, fun hvf => by rw [hnm]; exact h.name hvf⟩
  rcases h.objTop ha rfl with ⟨h1, _⟩ | ⟨_, h2⟩
  · obtain ⟨n, hn⟩ := hp ha
    rw [h1] at hn; cases hn
  · exact hfl.obj h2

section
variable {buf : Array UInt8} {md t : Nat}

/-- `iter_err_objBlock`, the position read off the context (`hnp`) -/
theorem g_field_value {st : LoopSt} {g : Grp} {rest : List Grp} (hZ : ZG buf md t st.p (g :: rest))
    (sn : Option (List UInt8)) (oa od : Nat) (hnp : ¬ (g.arrs = [] → ∃ n, g.pend = some n))
    (tok : Tok) (span : Span) (bc : Nat) (q : Parser) (hcl : classify st.p st.bc = ⟨tok, span, bc, q⟩)
    (hq : (q.getLvl q.lvlIdx).flags = (st.p.getLvl st.p.lvlIdx).flags)
    (hv : tok.isValue = true) (hns : tok ≠ .string) : (iter st sn oa od).1.p.err ≠ .none := by
  have hT := hZ.top
  refine iter_err_objBlock ?_ ?_ ?_ ?_
  all_goals rw [hcl]
  · intro h
    have h' : tok = .error := h
    rw [h'] at hv; cases hv
  · show (q.getLvl q.lvlIdx).flags = _
    rw [hq, hT.idx]; exact (expField_of hT.lv hT.ok hnp).1
  · exact hv
  · exact hns

theorem g_objBegin {st : LoopSt} {g : Grp} {rest : List Grp} (hZ : ZG buf md t st.p (g :: rest))
    (sn : Option (List UInt8)) (oa od : Nat) (rs : Bytes) (hrem : st.p.rem = 0x40 :: rs)
    (R : Parser) (hR : R = (iter st sn oa od).1.p) (hRs : Shape R) (hfr : st.p.Frame R) : Res buf md t R := by
  have hT := hZ.top
  have hsh := hZ.shape
  have hcl := classify_objBegin hsh hZ.err st.bc rs hrem
  by_cases hp : g.arrs = [] → ∃ n, g.pend = some n
  · have hvp := valPos_of hT.lv hT.ok hp
    rw [← hT.idx] at hvp
    rcases tok_objBegin sn oa od hsh hZ.err rs hrem hvp R hR with h | ⟨r1, r2, r3, r4, L', a1, a2, a3, r5⟩ | ⟨r1, r2, r3, L', hsim, r5⟩
    · exact Or.inl h
    · refine Or.inr (Or.inr (Or.inl ⟨newGrp :: g :: rest, ?_⟩))
      have hdep : st.p.depth = rest.length + 1 := hT.dep
      have hz0 := hZ.zeros st.p.depth (Nat.le_refl _)
      rw [hT.idx, hdep] at r5
      rw [if_neg (by omega), ← hdep, hz0, hdep] at r5
      rw [hT.idx] at a1 a2 a3
      -- only the entries of the old and of the new innermost group change
      have hlv : ∀ i, i ≠ rest.length + 1 → i ≠ rest.length → R.getLvl i = st.p.getLvl i :=
        fun i h1 h2 => by rw [r5, if_neg h1, if_neg h2]
      refine hZ.next hRs r1 hfr (by rw [r3, hdep]; rfl) (by simp)
        (fun i hi => by rw [r3] at hi; rw [hlv i (by omega) (by omega)]; exact hZ.zeros i (by omega)) ?_
        [0x40] rs (by simpa using hrem) r2 ?_
      · refine ⟨?_, GrpOk_new _, ⟨fun h => (by cases h), fun h => (by cases h.1)⟩, ?_⟩
        · show LvOk buf (R.getLvl (rest.length + 1)) newGrp true
          rw [r5, if_pos rfl]
          exact ⟨rfl, fun h => absurd rfl h, fun _ _ => Or.inl ⟨rfl, rfl⟩, fun _ h => (by cases h), fun _ => rfl⟩
        · refine hZ.mirror.replaceTop (fun i hi => hlv i (by omega) (by omega)) ?_ hT.ok rfl
          rw [r5, if_neg (by omega), if_pos rfl]
          obtain ⟨b1, b2, b3, b4⟩ := hT.lv.afterValue hp a1 a2 a3
          exact ⟨b1, b2, fun _ h => (by cases h), fun ha _ => ⟨hp ha, b3 ha⟩, b4⟩
      · show encGs rest ++ encGrp g ++ encGrp newGrp = encGs rest ++ encGrp g ++ [0x40]
        rw [encGrp_new]
    · exact Or.inr (Or.inr (Or.inl ⟨_, hZ.same hRs r1 hfr r2 r3 L' hsim r5⟩))
  · rw [hR]
    exact Or.inl (g_field_value hZ sn oa od hp _ _ _ _ hcl (flags_setCtype hsh.lvlIdx_lt _) rfl (fun h => nomatch h))

theorem g_arrBegin {st : LoopSt} {g : Grp} {rest : List Grp} (hZ : ZG buf md t st.p (g :: rest))
    (sn : Option (List UInt8)) (oa od : Nat) (rs : Bytes) (hrem : st.p.rem = 0x42 :: rs)
    (R : Parser) (hR : R = (iter st sn oa od).1.p) (hRs : Shape R) (hfr : st.p.Frame R) : Res buf md t R := by
  have hT := hZ.top
  have hsh := hZ.shape
  have hcl := classify_arrBegin hsh hZ.err st.bc rs hrem
  by_cases hp : g.arrs = [] → ∃ n, g.pend = some n
  · have hvp := valPos_of hT.lv hT.ok hp
    rw [← hT.idx] at hvp
    rcases tok_arrBegin sn oa od hsh hZ.err rs hrem hvp R hR with h | ⟨r1, r2, r3, r4, L', a1, a2, a3, r5⟩ | ⟨r1, r2, r3, L', hsim, r5⟩
    · exact Or.inl h
    · refine Or.inr (Or.inr (Or.inl ⟨{ g with arrs := [] :: g.arrs } :: rest, ?_⟩))
      rw [hT.idx] at a1 a2 r4
      refine hZ.setTop hRs r1 hfr r3 L' r5 [0x42] rs hrem r2 ?_ ?_ rfl (encGrp_openArr g)
      · refine ⟨?_, fun _ => Or.inl a3, fun h => (by simp at h), fun h => (by simp at h), fun hvf => by rw [a2]; exact hT.lv.name hvf⟩
        show L'.ad = (g.arrs.length + 1)
        rw [a1, hT.lv.ad]
      · refine GrpOk_openArr _ g hT.ok (by rw [← hT.lv.ad]; exact r4) ?_
        intro hvf
        by_cases hne : g.arrs = []
        · exact hp hne
        · exact hT.ok.arrPend hvf hne
    · exact Or.inr (Or.inr (Or.inl ⟨_, hZ.same hRs r1 hfr r2 r3 L' hsim r5⟩))
  · rw [hR]
    exact Or.inl (g_field_value hZ sn oa od hp _ _ _ _ hcl (flags_setCtype hsh.lvlIdx_lt _) rfl (fun h => nomatch h))

/-- the END byte `b` of the root group was the last byte of the buffer: the buffer is the group's
    encoding closed by `b` -/
theorem ZG.closeRoot {p R : Parser} {g : Grp} {b : UInt8} {rs : Bytes} (hZ : ZG buf md t p [g]) (hrem : p.rem = b :: rs)
    (fr : p.Frame R) (hu : R.used = p.used + 1) (he : R.used = R.size) : buf.toList = encGrp g ++ [b] := by
  have hrs : rs = [] := (rem_last_iff hZ.shape hrem).mp (by rw [← hu, he, fr.1])
  rw [hZ.bytes, hrem, hrs]
  rfl

theorem g_arrEnd {st : LoopSt} {g : Grp} {rest : List Grp} (hZ : ZG buf md t st.p (g :: rest))
    (sn : Option (List UInt8)) (oa od : Nat) (rs : Bytes) (hrem : st.p.rem = 0x43 :: rs)
    (R : Parser) (hR : R = (iter st sn oa od).1.p) (hRs : Shape R) (hfr : st.p.Frame R) : Res buf md t R := by
  have hT := hZ.top
  have hsh := hZ.shape
  have hnj := hT.lv.noJunk hT.ok
  rw [← hT.idx] at hnj
  -- inside an array the innermost group has an open array, whose elements close into a value
  have harr : (st.p.getLvl rest.length).flags.inArray = true →
      ∃ a as, g.arrs = a :: as ∧ (st.p.getLvl rest.length).ad = as.length + 1 ∧
        wfValue (.arr (toElems a .nil)) = true ∧ fits (md - (rest.length + 1)) (255 - as.length) (.arr (toElems a .nil)) = true := by
    intro hf
    rcases hT.lv.cases hT.ok with ⟨hne, _⟩ | ⟨_, _, hfl, _⟩ | ⟨_, _, hfl, _⟩
    · obtain ⟨a, as, hga⟩ := List.exists_cons_of_ne_nil hne
      have harrs := hT.ok.arrs
      rw [hga] at harrs
      obtain ⟨hw, hfit, _⟩ := closeArr_ok _ a as harrs
      exact ⟨a, as, hga, by rw [hT.lv.ad, hga]; rfl, hw, hfit⟩
    · rw [hfl] at hf; cases hf
    · rw [hfl] at hf; cases hf
  obtain ⟨lv', scan', st', hsim, hit⟩ :=
    iter_p sn oa od (classify_arrEnd hsh hZ.err st.bc rs hrem) (by decide) (objBlock_end rfl (by decide))
  generalize hr : dispatch st' st.p lv' st.p.lvlIdx scan' .arrEnd _ _ sn oa od = r at hit
  rw [hit] at hR
  subst hR
  obtain ⟨a1, a2⟩ := hsim.ad
  rcases (caseArrEnd_full hZ.err hsh.lvlIdx_lt hsh.hcur rfl hr).1 with
    ⟨_, h, _⟩ | ⟨r0, _, _, W⟩ | ⟨r0, _, r00, r01, _, _, W⟩ | ⟨r0, _, r00, r01, r02, _, W, r3⟩
  · exact Or.inl h
  · exact Or.inr (Or.inr (Or.inl ⟨_, hZ.same hRs (W.err.trans hZ.err) hfr W.used W.depth lv' (hsim.sim hnj) W.lvl⟩))
  · -- an array (not the root array) is closed
    have r0 := hsim.inArray r0
    rw [a1] at r00 r01
    have a3 : (arrEndLevel lv').flags = if (st.p.getLvl st.p.lvlIdx).ad - 1 = 0 then .expField else .arr1 := by
      rw [← a1]; rfl
    rw [hT.idx] at r0 r00 r01 a1 a2 a3
    obtain ⟨a, as, hga, hadL, hw, hf⟩ := harr r0
    have hne : g.arrs ≠ [] := by rw [hga]; exact List.cons_ne_nil _ _
    have hroot : ¬ (as = [] ∧ t = 2 ∧ rest = []) := by
      rintro ⟨h1, h2, h3⟩
      apply r01
      refine ⟨by rw [hadL, h1]; rfl, by rw [hZ.hpt]; exact h2, by rw [hT.dep, h3]; rfl⟩
    have hvirt : as = [] → g.virt = false := by
      intro h0
      cases hvv : g.virt with
      | false => rfl
      | true =>
        have := hT.virt.mp hvv
        exact absurd ⟨h0, this.2, this.1⟩ hroot
    have hp0 : ({ g with arrs := as } : Grp).arrs = [] → ∃ n, ({ g with arrs := as } : Grp).pend = some n := by
      intro h0
      exact hT.ok.arrPend (hvirt h0) hne
    refine Or.inr (Or.inr (Or.inl ⟨addVal { g with arrs := as } (.arr (toElems a .nil)) :: rest, ?_⟩))
    refine hZ.setTop hRs (W.err.trans hZ.err) hfr W.depth (arrEndLevel lv') W.lvl [0x43] rs hrem W.used ?_ ?_ (addVal_virt _ _) ?_
    · refine LvOk_addVal buf _ { g with arrs := as } _ ?_ ?_ ?_ hp0 (fun hvf => by
        show lv'.name.map (sliceB buf) = _
        rw [a2]; exact hT.lv.name hvf)
      · show lv'.ad - 1 = as.length
        rw [a1, hadL]; rfl
      · intro h0
        have : as.length ≠ 0 := fun h => h0 (List.eq_nil_of_length_eq_zero h)
        rw [a3, hadL]
        simp [this]
      · intro h0
        have h0' : as = [] := h0
        rw [a3, hadL, h0']
        simp
    · refine GrpOk_addVal _ _ _ (GrpOk_dropArr _ g a as hT.ok hga ?_) hp0 hw hf
      intro hvt h0
      rw [hvirt h0] at hvt; cases hvt
    · rw [encGrp_addVal { g with arrs := as } _ (fun h0 => ⟨hvirt h0, hp0 h0⟩), encGrp_closeArr g a as hga]
  · -- the root array is closed
    have r0 := hsim.inArray r0
    have r2 := W.used
    rw [a1, hT.idx] at r00
    rw [hT.idx] at r0
    rw [hT.dep] at r02
    have hrest : rest = [] := List.eq_nil_of_length_eq_zero (by omega)
    subst hrest
    have ht : t = 2 := by rw [← hZ.hpt]; exact r01
    subst ht
    obtain ⟨a, as, hga, hadL, hw, hf⟩ := harr r0
    have has : as = [] := List.eq_nil_of_length_eq_zero (by rw [hadL] at r00; omega)
    subst has
    have hv : g.virt = true := hT.virt.mpr ⟨rfl, rfl⟩
    refine Or.inr (Or.inr (Or.inr ⟨r3, .arr (toElems a .nil), hw, ?_, Or.inr ⟨rfl, ⟨_, rfl⟩, hf⟩⟩))
    rw [hZ.closeRoot hrem hfr r2 r3, encGrp_closeArr g a [] hga]
    simp [encGrp, encArrs, hv]

theorem g_objEnd {st : LoopSt} {g : Grp} {rest : List Grp} (hZ : ZG buf md t st.p (g :: rest))
    (sn : Option (List UInt8)) (oa od : Nat) (rs : Bytes) (hrem : st.p.rem = 0x41 :: rs)
    (R : Parser) (hR : R = (iter st sn oa od).1.p) (hRs : Shape R) (hfr : st.p.Frame R) : Res buf md t R := by
  have hT := hZ.top
  have hsh := hZ.shape
  have hobj : (st.p.getLvl rest.length).flags = .expField → g.arrs = [] ∧ g.pend = none ∧ g.virt = false := by
    intro hf
    rcases hT.lv.cases hT.ok with ⟨_, hfl, _⟩ | ⟨_, _, hfl, _⟩ | ⟨ha, hpn, _, _, hvf⟩
    · rcases hfl with h | h <;> rw [h] at hf <;> cases hf
    · rw [hfl] at hf; cases hf
    · exact ⟨ha, hpn, hvf⟩
  obtain ⟨lv', scan', st', hsim, hit⟩ :=
    iter_p sn oa od (classify_objEnd hsh hZ.err st.bc rs hrem) (by decide) (objBlock_end rfl (by decide))
  generalize hr : dispatch st' st.p lv' st.p.lvlIdx scan' .objEnd _ _ sn oa od = r at hit
  rw [hit] at hR
  subst hR
  rcases (caseObjEnd_full hZ.err hsh.lvlIdx_lt hsh.hcur rfl hr).1 with
    ⟨_, h, _⟩ | ⟨r0, _, _, W⟩ | ⟨r0, _, _, r00, _, _, r1, r2, r3, r5⟩ | ⟨r0, _, _, r00, _, r1, r2, r3, r4, _⟩
  · exact Or.inl h
  · obtain rfl := hsim.eq_of_expField r0
    exact Or.inr (Or.inr (Or.inl ⟨_, hZ.same hRs (W.err.trans hZ.err) hfr W.used W.depth _ ⟨rfl, rfl, Or.inl rfl⟩ W.lvl⟩))
  · -- a nested object is closed
    obtain rfl := hsim.eq_of_expField r0
    rw [hT.idx] at r0
    obtain ⟨ha, hpn, hvf⟩ := hobj r0
    cases rest with
    | nil => rw [hT.dep] at r00; simp at r00
    | cons g2 r2' =>
      have hdep : st.p.depth = r2'.length + 2 := hT.dep
      have hidx : st.p.lvlIdx = r2'.length + 1 := hT.idx
      obtain ⟨l2, ok2, v2, low2⟩ := hT.low
      have hp2 : g2.arrs = [] → ∃ n, g2.pend = some n := fun h => (l2.objLow h rfl).1
      have hok : GrpOk (md - (r2'.length + 2)) g := hT.ok
      have hroom : r2'.length + 2 ≤ md := hT.room
      obtain ⟨hw, hf⟩ := closeObj_ok (md - (r2'.length + 2)) (255 - g2.arrs.length) g hok
      rw [show md - (r2'.length + 2) + 1 = md - (r2'.length + 1) by omega] at hf
      refine Or.inr (Or.inr (Or.inl ⟨addVal g2 (.obj (toFields g.fs .nil)) :: r2', ?_⟩))
      have hlv' : r.1.p.getLvl r2'.length = st.p.getLvl r2'.length := by
        rw [r5, hidx, if_neg (by omega)]
      refine hZ.next hRs r1 hfr (by rw [r3, hdep]; simp) (by simp)
        (fun i hi => by
          rw [r5]
          split
          · rfl
          · exact hZ.zeros i (by rw [r3] at hi; rename_i hne; rw [hidx] at hne; omega)) ?_
        [0x41] rs (by simpa using hrem) r2 ?_
      · refine ⟨?_, GrpOk_addVal _ g2 _ ok2 hp2 hw hf, by rw [addVal_virt]; exact v2, Mirror.congr (fun i hi => by
          rw [r5, hidx, if_neg (by omega)]) low2⟩
        rw [hlv']
        exact LvOk_addVal buf _ g2 _ l2.ad l2.arrFlags (fun h => (l2.objLow h rfl).2) hp2 l2.name
      · show encGs r2' ++ encGrp (addVal g2 (.obj (toFields g.fs .nil))) = encGs r2' ++ encGrp g2 ++ encGrp g ++ [0x41]
        have hv2 : g2.arrs = [] → g2.virt = false := fun h => virt_false_of ok2 h
        rw [encGrp_addVal g2 _ (fun h0 => ⟨hv2 h0, hp2 h0⟩), ← encGrp_closeObj g hvf ha hpn]
        simp only [List.append_assoc]
  · -- the root object is closed
    obtain rfl := hsim.eq_of_expField r0
    rw [hT.idx] at r0
    obtain ⟨ha, hpn, hvf⟩ := hobj r0
    rw [hT.dep] at r00
    have hrest : rest = [] := List.eq_nil_of_length_eq_zero (by omega)
    subst hrest
    have ht : t = 1 := by
      rcases hZ.t12 with h | h
      · exact h
      · have := hT.virt.mpr ⟨rfl, h⟩
        rw [hvf] at this; cases this
    subst ht
    obtain ⟨hw, hf⟩ := closeObj_ok (md - 1) 255 g hT.ok
    have hroom : 1 ≤ md := hT.room
    rw [show md - 1 + 1 = md by omega] at hf
    refine Or.inr (Or.inr (Or.inr ⟨r3, .obj (toFields g.fs .nil), hw, ?_, Or.inl ⟨rfl, ⟨_, rfl⟩, hf⟩⟩))
    rw [hZ.closeRoot hrem hfr r2 r3, encGrp_closeObj g hvf ha hpn]

end
end Binson
