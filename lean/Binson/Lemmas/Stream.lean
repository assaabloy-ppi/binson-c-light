/-
  C08: streaming traversal is exactly as strict as verify ("traversal ok ⇒ verify accepts").
  For ARBITRARY bytes accepted by init and ANY sequence of navigation calls (protocol-following
  or not), if the error flag is still NONE at the end and the root container has been closed
  with the cursor at the end of the buffer, then verify accepts the same bytes.
-/
import Binson.Lemmas.StreamLoop
namespace Binson

section
variable {buf : Array UInt8} {md t : Nat}

theorem step_inv (p : Parser) (op : Op) (hn : op.IsNav) (hI : Inv buf md t p) : Inv buf md t (step p op).1 :=
  step_nav_ind (fun _ h => h.shape) (fun p scan sn => advance_inv p scan sn)
    (fun _ e he h => Inv.ofErr (h.shape.withErr e he) h.hbuf h.hmd h.hpt he) p op hn hI

theorem next_inv (p : Parser) (hI : Inv buf md t p) : Inv buf md t (next p).1 := step_inv p .next trivial hI
theorem field_inv (p : Parser) (nm : List UInt8) (hI : Inv buf md t p) : Inv buf md t (field p nm).1 := step_inv p (.field nm) trivial hI
theorem leaveObject_inv (p : Parser) (hI : Inv buf md t p) : Inv buf md t (leaveObject p).1 := step_inv p .leaveObject trivial hI
theorem leaveArray_inv (p : Parser) (hI : Inv buf md t p) : Inv buf md t (leaveArray p).1 := step_inv p .leaveArray trivial hI
theorem getRaw_inv (p : Parser) (hI : Inv buf md t p) : Inv buf md t (getRaw p).1 := step_inv p .getRaw trivial hI

theorem run_inv (ops : List Op) (p : Parser) (hn : ∀ op ∈ ops, op.IsNav) (hI : Inv buf md t p) : Inv buf md t (run p ops) :=
  run_ind ops p (fun q op ho hq => step_inv q op (hn op ho) hq) hI

theorem Fresh.inv {W : Parser} (hF : Fresh W buf t md) (hmd : md ≤ 255) (h2 : 2 ≤ buf.size)
    (ht : (t = 1 ∧ buf.getD 0 0 = 0x40) ∨ (t = 2 ∧ buf.getD 0 0 = 0x42)) : Inv buf md t W := by
  have hrem := fresh_rem hF h2
  refine ⟨hF.shape, hF.buf, hF.maxDepth, hF.ptype, Or.inr (Or.inl ⟨hF.shape, hF.err, hF.buf, hF.maxDepth, hmd, hF.ptype, ?_, hF.depth, hF.used,
    by rw [hF.zeros]; rfl, by rw [hF.zeros]; rfl, by rw [hF.zeros]; rfl, fun i _ => hF.zeros i⟩)⟩
  rcases ht with ⟨h, hb⟩ | ⟨h, hb⟩
  · exact Or.inl ⟨h, _, by rw [hrem, hb]⟩
  · exact Or.inr ⟨h, _, by rw [hrem, hb]⟩

theorem init_inv (g : Parser) (ha : Alloc g) (hmd : g.maxDepth ≤ 255) (buf : Array UInt8) (hsz : buf.size < 2 ^ 63) (t : Nat)
    (hi : (init g buf t).2 = true) :
    2 ≤ buf.size ∧ Fresh (init g buf t).1 buf t g.maxDepth ∧ Inv buf g.maxDepth t (init g buf t).1 := by
  obtain ⟨h2, ht⟩ := init_accept g buf t hi
  have hF := (init_fresh g ha buf _ _ _ ht h2 hsz rfl rfl).2
  exact ⟨h2, hF, hF.inv hmd h2 (ht.imp (fun c => ⟨c.1, c.2.1⟩) (fun c => ⟨c.1, c.2.1⟩))⟩

theorem reset_inv {W : Parser} (hs : Shape W) (hmd : W.maxDepth ≤ 255) (hr : (reset W).2 = true) :
    2 ≤ W.buf.size ∧ ((W.ptype = 1 ∧ W.buf.getD 0 0 = 0x40) ∨ (W.ptype = 2 ∧ W.buf.getD 0 0 = 0x42)) ∧
    Fresh (reset W).1 W.buf W.ptype W.maxDepth ∧ Inv W.buf W.maxDepth W.ptype (reset W).1 := by
  obtain ⟨h2, ht⟩ := reset_accept_inv W (by have := hs.hmd; omega) hs.hbs hr
  rw [← hs.hbs] at h2 ht
  have ht' : (W.ptype = 1 ∧ W.buf.getD 0 0 = 0x40) ∨ (W.ptype = 2 ∧ W.buf.getD 0 0 = 0x42) :=
    ht.imp (fun c => ⟨c.1, c.2.1⟩) (fun c => ⟨c.1, c.2.1⟩)
  have hF := (reset_to_fresh hs rfl rfl rfl _ _ ht h2 rfl rfl).2
  exact ⟨h2, ht', hF, hF.inv hmd h2 ht'⟩

end

/-- the root level is closed: what `RootClosed` says of the levels, without the parser type
    (an array root keeps its state entry, `depth` stays 1, its array count is 0) -/
def Closed (p : Parser) : Prop :=
  p.depth = 0 ∨ (p.ptype = 2 ∧ p.depth = 1 ∧ (p.getLvl 0).ad = 0)

theorem RootClosed.closed {p : Parser} (h : RootClosed p) : Closed p := h.2.imp (fun c => c.2) id

/-- what the closed root says about an invariant state past the first byte: only the "document
    accepted" case is left -/
theorem closed_accept {buf : Array UInt8} {md t : Nat} {p : Parser} (hI : Inv buf md t p)
    (he : p.err = .none) (hu : p.used ≠ 0) (hc : Closed p) : Accept buf md t := by
  rcases hI.res with h | hF | ⟨gs, hZ⟩ | ⟨_, hacc⟩
  · exact absurd he h
  · exact absurd hF.used hu
  · exfalso
    obtain ⟨g, rest, rfl⟩ := List.exists_cons_of_ne_nil hZ.ne
    have hT := hZ.top
    rcases hc with hd | ⟨hp, hd, had⟩
    · rw [hT.dep] at hd; omega
    · rw [hT.dep] at hd
      have hrest : rest = [] := List.eq_nil_of_length_eq_zero (by omega)
      subst hrest
      have hv : g.virt = true := hT.virt.mpr ⟨rfl, by rw [← hZ.hpt]; exact hp⟩
      have hne := hT.ok.virtArr hv
      have hl := hT.lv.ad
      rw [show ([] : List Grp).length = 0 from rfl, had] at hl
      exact hne (List.eq_nil_of_length_eq_zero hl.symm)
  · exact hacc

theorem closed_accept_end {buf : Array UInt8} {md t : Nat} {p : Parser} (hI : Inv buf md t p) (h2 : 2 ≤ buf.size)
    (he : p.err = .none) (hu : p.used = p.size) (hc : Closed p) : Accept buf md t := by
  refine closed_accept hI he ?_ hc
  rw [hu, ← hI.shape.hbs, hI.hbuf]
  omega

/-- C08, "traversal ok ⇒ verify accepts": any sequence of navigation calls that ends with the
    error flag clear and the root container closed at the end of the buffer has validated the
    buffer exactly like verify -/
theorem stream_sound (g : Parser) (ha : Alloc g) (hmd : g.maxDepth ≤ 255) (buf : Array UInt8) (hsz : buf.size < 2 ^ 63)
    (root : Root) (hi : (init g buf (rootNum root)).2 = true) (ops : List Op) (hnav : ∀ op ∈ ops, op.IsNav)
    (herr : (run (init g buf (rootNum root)).1 ops).err = .none)
    (hclosed : RootClosed (run (init g buf (rootNum root)).1 ops)) :
    (verify (init g buf (rootNum root)).1).2.1 = true := by
  obtain ⟨h2, _, hI0⟩ := init_inv g ha hmd buf hsz _ hi
  have hI := run_inv ops _ hnav hI0
  exact (verify_complete g ha hmd buf hsz root (closed_accept_end hI h2 herr hclosed.1 hclosed.closed).wfDoc).2

end Binson
