/-
  Lemmas about `_binson_to_string_cb` (Model/Print.lean `toStringCbV`): every `snprintf` stays
  inside the claimed capacity, `buffer_used` counts the full text, `buffer_full` is raised exactly
  when text plus NUL no longer fit, and the stored text is the text of the stdout callback.
  The callback is a sequence of stores behind the text so far: `snp_inv` is the one fact about a
  store, `tsAdvance_inv` the one about the `buffer_full` tests and the cursor advance after it.
-/
import Binson.Lemmas.PrintLemmas
import Binson.Lemmas.WriterLemmas
namespace Binson

/-! ### the string literal `"\"0x"` -/

theorem ByteArray_toList_loop (bs : ByteArray) (i : Nat) (r : List UInt8) :
    ByteArray.toList.loop bs i r = r.reverse ++ bs.data.toList.drop i := by
  fun_induction ByteArray.toList.loop bs i r with
  | case1 i r h ih =>
    rw [ih]
    have h' : i < bs.data.toList.length := by rw [Array.length_toList, ByteArray.size_data]; exact h
    rw [List.drop_eq_getElem_cons h']
    have hg : bs.get! i = bs.data.toList[i] := by
      cases bs with
      | mk d =>
        simp only [ByteArray.get!]
        simp at h'
        simp [h']
    simp [hg]
  | case2 i r h =>
    have h' : bs.data.toList.length ≤ i := by rw [Array.length_toList, ByteArray.size_data]; omega
    simp [List.drop_of_length_le h']

theorem ByteArray_toList_eq (bs : ByteArray) : bs.toList = bs.data.toList := by
  simp [ByteArray.toList, ByteArray_toList_loop]

theorem strBytes_q0x : strBytes "\"0x" = [0x22, 0x30, 0x78] := by
  show (String.ofList ['"', '0', 'x']).toByteArray.toList = _
  rw [String.toByteArray_ofList, ByteArray_toList_eq, List.utf8Encode, List.toList_data_toByteArray]
  decide

theorem hexAll_length (s : List UInt8) : (hexAll s).length = 2 * s.length := by
  induction s with
  | nil => rfl
  | cons b r ih => simp [hexAll, hex2, ih]; omega

/-! ### `_check_boundary` without wrap-around -/

theorem checkBoundary_eq (a b max : Nat) (hb : b < two64) (hm : max < two64) :
    checkBoundary a b max = decide (a + b ≤ max) := by
  simp only [checkBoundary, two64] at *
  by_cases h : a + b ≤ max
  · have h1 : (a + b) % 18446744073709551616 = a + b := Nat.mod_eq_of_lt (by omega)
    simp [h1, h]
  · simp only [h, decide_false]
    by_cases h2 : (a + b) % 18446744073709551616 > max
    · simp [h2]
    · have : (a + b) % 18446744073709551616 < a := by omega
      simp [h2, this]

theorem boundary_full {size : Nat} (hs : size < two64) (a ret : Nat) (h : (!checkBoundary a ret size) = true) :
    size ≤ a + ret := by
  by_cases hr : ret < two64
  · rw [checkBoundary_eq _ _ _ hr hs] at h
    simp only [Bool.not_eq_true', decide_eq_false_iff_not] at h
    omega
  · omega

/-- the `snprintf` store is the writer's `memmove` -/
theorem storeText_eq_storeAt (l : List UInt8) : ∀ (mem : Array UInt8) (off : Nat),
    storeText mem off l = storeAt mem off l := by
  induction l with
  | nil => intro mem off; rfl
  | cons b r ih => intro mem off; rw [storeText, storeAt, ih]

theorem storeAt_drop (data : List UInt8) : ∀ (mem : Array UInt8) (off k : Nat), off + data.length ≤ k →
    (storeAt mem off data).toList.drop k = mem.toList.drop k := by
  induction data with
  | nil => intro mem off k _; rfl
  | cons b r ih =>
    intro mem off k h
    rw [List.length_cons] at h
    rw [storeAt, ih _ _ _ (by omega), Array.toList_setIfInBounds, List.drop_set_of_lt (by omega)]

/-- the memory-safety part of the invariant: the claimed capacity is `size`, no store left the
    destination `m0`, its size is unchanged and nothing at or beyond `size` was modified -/
structure Safe (size : Nat) (m0 : Array UInt8) (c : TSCtx) : Prop where
  hsize : c.size = size
  fault : c.fault = false
  msize : c.mem.size = m0.size
  tail : c.mem.toList.drop size = m0.toList.drop size

variable {size : Nat} {m0 : Array UInt8} {c : TSCtx} {t : List UInt8}

theorem snp_zero (c : TSCtx) (dst : Option Nat) (text : List UInt8) : snp c dst 0 text = c := by
  simp [snp]

theorem snp_some (c : TSCtx) (off avail : Nat) (text : List UInt8) (h : 0 < avail) :
    snp c (some off) avail text =
      { c with mem := storeAt c.mem off (text.take (avail - 1) ++ [0]),
               fault := c.fault || decide (c.mem.size < off + (text.take (avail - 1)).length + 1) } := by
  have : ¬ avail = 0 := by omega
  simp [snp, this, storeText_eq_storeAt]

theorem snp_eq (c : TSCtx) (dst : Option Nat) (avail : Nat) (text : List UInt8) :
    ∃ m f, snp c dst avail text = { c with mem := m, fault := f } := by
  unfold snp
  split
  · exact ⟨c.mem, c.fault, rfl⟩
  · cases dst
    · exact ⟨c.mem, true, rfl⟩
    · exact ⟨_, _, rfl⟩

/-- One `snprintf(dst, avail, text)` right behind the known content `T` of the destination. It is safe
    when its output, cut to `avail - 1` bytes, and the NUL end inside the claimed capacity; and if
    nothing was cut off, the content is then `T`, `text` and a NUL. (`avail = 0` stores nothing.) -/
theorem snp_inv (hle : size ≤ m0.size) (hc : Safe size m0 c) (T text : List UInt8) (dst : Option Nat) (avail : Nat)
    (hd : 0 < avail → dst = some T.length ∧ T.length + min (avail - 1) text.length + 1 ≤ size ∧
      T <+: c.mem.toList) :
    Safe size m0 (snp c dst avail text) ∧
    (text.length < avail → T ++ text ++ [0] <+: (snp c dst avail text).mem.toList) := by
  rcases Nat.eq_zero_or_pos avail with h0 | hpos
  · rw [h0, snp_zero]
    exact ⟨hc, fun h => absurd h (Nat.not_lt_zero _)⟩
  obtain ⟨hdst, hfit, rest, hrest⟩ := hd hpos
  have hm := hc.msize
  have hlen : T.length + rest.length = c.mem.size := by
    rw [← Array.length_toList, ← hrest, List.length_append]
  have hl : (text.take (avail - 1) ++ [0]).length = min (avail - 1) text.length + 1 := by
    simp [List.length_take]
  rw [hdst, snp_some c _ avail text hpos]
  refine ⟨⟨hc.hsize, ?_, ?_, ?_⟩, fun hlt => ?_⟩
  · show (c.fault || decide (c.mem.size < T.length + (text.take (avail - 1)).length + 1)) = false
    rw [hc.fault, List.length_take]
    simp
    omega
  · show (storeAt c.mem T.length _).size = m0.size
    rw [storeAt_size, hm]
  · show (storeAt c.mem T.length _).toList.drop size = _
    rw [storeAt_drop _ _ _ _ (by rw [hl]; omega), hc.tail]
  · show T ++ text ++ [0] <+: (storeAt c.mem T.length (text.take (avail - 1) ++ [0])).toList
    rw [List.take_of_length_le (by omega), storeAt_toList_split _ _ T rest hrest.symm
      (by rw [List.length_append, List.length_singleton]; omega), List.append_assoc T]
    exact List.prefix_append _ _

/-! ### the callback, with its local functions named -/

def availOf (c : TSCtx) : Nat := if c.used < c.size then c.size - c.used else 0
def dstOf (c : TSCtx) (avail : Nat) : Option Nat := if avail > 0 then some c.used else none

def setFull (c : TSCtx) (b : Bool) : TSCtx := { c with full := c.full || b }

def tsFinish (c' : TSCtx) (avail ret : Nat) : TSCtx :=
  let c := if ret ≥ avail then { c' with full := true } else c'
  let c := if !checkBoundary c.used ret c.size then { c with full := true } else c
  { c with used := c.used + ret }

def tsSimple (c : TSCtx) (avail ps : Nat) (text : List UInt8) : TSCtx :=
  tsFinish (snp { c with pstate := ps } (dstOf c avail) avail text) avail text.length

def tsBytesPre (c : TSCtx) (avail : Nat) : TSCtx × Nat :=
  let c := snp c (dstOf c avail) avail (strBytes "\"0x")
  let r : TSCtx × Nat := if !checkBoundary c.used 3 c.size then ({ c with full := true }, 0) else (c, avail)
  let c := { r.1 with used := r.1.used + 3 }
  let avail := if r.2 ≥ 3 then r.2 - 3 else r.2
  (c, avail)

def tsHexTail (r : TSCtx × Nat) (base : Option Nat) (data : List UInt8) : TSCtx :=
  let h := hexLoop r.1 base r.2 0 data
  tsFinish (snp h.1 (if r.2 > 0 then base.map (· + h.2) else none) r.2 [quote]) r.2 (h.2 + 1)

def tsBytesPost (c : TSCtx) (avail : Nat) (data : List UInt8) : TSCtx :=
  tsHexTail (if data.length > sizeMax / 2 - 2 ∨ !checkBoundary c.used (data.length * 2 + 2) c.size
    then ({ c with full := true }, 0) else (c, avail)) (dstOf c avail) data

def tsCommaIf (p : Prop) [Decidable p] (c : TSCtx) (avail : Nat) : TSCtx × Nat :=
  if p then tsComma c avail else (c, avail)

def to5 (c : TSCtx) : TSCtx := if c.pstate = 4 then { c with pstate := 5 } else c

def tsCb (F : Fmts) (c : TSCtx) (v : EvView) : TSCtx :=
  let r := tsCommaIf (v.tok ≠ .arrEnd ∧ c.pstate = 5) c (availOf c)
  let c := to5 r.1
  let avail := r.2
  match v.tok with
  | .objBegin => tsSimple c avail 1 [0x7b]
  | .objEnd => tsSimple c avail (if v.ad > 0 then 5 else 2) [0x7d]
  | .arrBegin => tsSimple c avail 4 [0x5b]
  | .arrEnd => tsSimple c avail (if v.ad = 0 then 2 else c.pstate) [0x5d]
  | .fieldName =>
    let r := tsCommaIf (c.pstate = 2) c avail
    tsSimple r.1 r.2 2 (quote :: (cstr v.name ++ [quote, 0x3a]))
  | .bytes =>
    let r := tsBytesPre c avail
    tsBytesPost r.1 r.2 v.span
  | .error => tsSimple c avail c.pstate []
  | _ => tsSimple c avail c.pstate (scalarText F v)

/- `rfl` alone is too slow on the zeta-expanded bodies: the shared `let`s are named first, so that
   each side of every comparison is small. -/
theorem toStringCbV_eq (F : Fmts) (c : TSCtx) (v : EvView) : toStringCbV F c v = tsCb F c v := by
  obtain ⟨tok, ad, name, span, val⟩ := v
  unfold toStringCbV tsCb
  extract_lets tok' avail r c1 avail1 c2 dstOf' simple r2 data c5 r3 src c4 avail4 base r4 c3 avail3 h c6 ret c7 c8 r' c' avail' r2'
  have hs : simple = tsSimple := rfl
  have hr : r' = r := rfl
  have hc : c' = c2 := rfl
  have ha : avail' = avail1 := rfl
  have hr2 : r2' = r2 := rfl
  clear_value c2 avail1
  have e1 : (c4, avail4) = tsBytesPre c2 avail1 := rfl
  clear_value c4 avail4
  have hb : ({ c8 with used := c8.used + ret } : TSCtx) = tsBytesPost c4 avail4 data := rfl
  have e1a : c4 = (tsBytesPre c2 avail1).1 := congrArg Prod.fst e1
  have e1b : avail4 = (tsBytesPre c2 avail1).2 := congrArg Prod.snd e1
  rw [hb, e1a, e1b, hs]
  clear_value r2 r
  subst hr2 hr hc ha
  cases tok <;> rfl

/-- weak invariant (holds initially and between the `snprintf`s of one callback): `used` is the
    length of the text so far, `full` only if text plus NUL do not fit, the text is stored if it
    fits with room for a NUL -/
structure WInv (size : Nat) (m0 : Array UInt8) (c : TSCtx) (t : List UInt8) : Prop where
  safe : Safe size m0 c
  used : c.used = t.length
  full : c.full = true → size ≤ t.length
  cont : t.length < size → c.mem.toList.take t.length = t

/-- strong invariant (holds after every callback): moreover `full` is exact and the NUL is there -/
structure SInv (size : Nat) (m0 : Array UInt8) (c : TSCtx) (t : List UInt8) : Prop where
  w : WInv size m0 c t
  fullIff : size ≤ t.length → c.full = true
  contNul : t.length < size → c.mem.toList.take (t.length + 1) = t ++ [0]

theorem WInv.avail (h : WInv size m0 c t) :
    availOf c = if t.length < size then size - t.length else 0 := by
  unfold availOf; rw [h.used, h.safe.hsize]

/-- a text of `n` more bytes is cut off, or leaves no room for the NUL, exactly when it does not fit -/
theorem WInv.ge_avail (h : WInv size m0 c t) (n : Nat) : n ≥ availOf c ↔ size ≤ t.length + n := by
  rw [h.avail]; split <;> omega

theorem WInv.pre (h : WInv size m0 c t) (hlt : t.length < size) : t <+: c.mem.toList :=
  List.prefix_iff_eq_take.2 (h.cont hlt).symm

theorem WInv.setPs (h : WInv size m0 c t) (ps : Nat) : WInv size m0 { c with pstate := ps } t :=
  ⟨⟨h.safe.hsize, h.safe.fault, h.safe.msize, h.safe.tail⟩, h.used, h.full, h.cont⟩

/-- `tsFinish` in closed form; the comma and the `"0x` prefix leave out the `ret ≥ avail` test
    (`strict = false`) -/
def tsAdvance (strict : Bool) (c : TSCtx) (avail ret : Nat) : TSCtx :=
  { c with full := c.full || (strict && decide (ret ≥ avail)) || !checkBoundary c.used ret c.size,
           used := c.used + ret }

theorem tsFinish_eq (c : TSCtx) (avail ret : Nat) : tsFinish c avail ret = tsAdvance true c avail ret := by
  unfold tsFinish tsAdvance
  by_cases h1 : ret ≥ avail <;> cases h2 : checkBoundary c.used ret c.size <;> simp [h1, h2]

/-- The cursor advance by `ret` after the stores of a text that, with the `n` bytes so far, makes `T`:
    they left `T` and its NUL if these fit, `full` was not raised before unless they do not fit, and
    `ret ≥ avail` exactly if they do not fit. After a strict advance `full` is exact. -/
theorem tsAdvance_inv (hs : size < two64) (strict : Bool) (c : TSCtx)
    (avail ret n : Nat) (T : List UInt8) (hsafe : Safe size m0 c) (hused : c.used = n)
    (hT : T.length = n + ret) (hfull : c.full = true → size ≤ n + ret) (hav : ret ≥ avail ↔ size ≤ n + ret)
    (hcont : n + ret < size → T ++ [0] <+: c.mem.toList) :
    WInv size m0 (tsAdvance strict c avail ret) T ∧
    (strict = true → SInv size m0 (tsAdvance strict c avail ret) T) := by
  rw [← hT] at hfull hav hcont
  have hw : WInv size m0 (tsAdvance strict c avail ret) T := by
    refine ⟨⟨hsafe.hsize, hsafe.fault, hsafe.msize, hsafe.tail⟩, (congrArg (· + ret) hused).trans hT.symm, ?_, fun hlt => ?_⟩
    · show (c.full || (strict && decide (ret ≥ avail)) || !checkBoundary c.used ret c.size) = true → size ≤ T.length
      intro hf
      simp only [Bool.or_eq_true, Bool.and_eq_true, decide_eq_true_eq] at hf
      rcases hf with (hf | hf) | hf
      · exact hfull hf
      · exact hav.1 hf.2
      · rw [hsafe.hsize, hused] at hf
        rw [hT]
        exact boundary_full hs n ret hf
    · exact (List.prefix_iff_eq_take.1 ((List.prefix_append T [0]).trans (hcont hlt))).symm
  refine ⟨hw, fun hst => ⟨hw, fun hge => ?_, fun hlt => ?_⟩⟩
  · show (c.full || (strict && decide (ret ≥ avail)) || !checkBoundary c.used ret c.size) = true
    simp [hst, hav.2 hge]
  · have := List.prefix_iff_eq_take.1 (hcont hlt)
    rw [List.length_append] at this
    exact this.symm

/-- `snprintf` of `text` at the cursor with all the room that is left, `full` tests, advance: the
    comma and the `"0x` prefix (`strict = false`) and the one-`snprintf` cases -/
def emit (strict : Bool) (c : TSCtx) (text : List UInt8) : TSCtx :=
  tsAdvance strict (snp c (dstOf c (availOf c)) (availOf c) text) (availOf c) text.length

theorem emit_inv (hle : size ≤ m0.size) (hs : size < two64) (h : WInv size m0 c t) (strict : Bool)
    (text : List UInt8) :
    WInv size m0 (emit strict c text) (t ++ text) ∧ (emit strict c text).pstate = c.pstate ∧
    (strict = true → SInv size m0 (emit strict c text) (t ++ text)) := by
  have hav := h.avail
  have hp := snp_inv hle h.safe t text (dstOf c (availOf c)) (availOf c) (fun hpos => by
    have hlt : t.length < size := by rw [hav] at hpos; split at hpos <;> omega
    rw [hav, if_pos hlt] at hpos ⊢
    exact ⟨by rw [dstOf, if_pos hpos, h.used], by omega, h.pre hlt⟩)
  unfold emit
  obtain ⟨m, f, e⟩ := snp_eq c (dstOf c (availOf c)) (availOf c) text
  rw [e] at hp ⊢
  have hge := h.ge_avail text.length
  have := tsAdvance_inv hs strict _ (availOf c) text.length t.length (t ++ text) hp.1 h.used List.length_append
    (fun hfu => Nat.le_trans (h.full hfu) (Nat.le_add_right _ _)) hge
    (fun hlt => hp.2 (Nat.lt_of_not_le (mt hge.1 (Nat.not_le.2 hlt))))
  exact ⟨this.1, rfl, this.2⟩

theorem availOf_emit (strict : Bool) (c : TSCtx) (text : List UInt8) :
    availOf (emit strict c text) = availOf c - text.length := by
  unfold emit
  obtain ⟨m, f, e⟩ := snp_eq c (dstOf c (availOf c)) (availOf c) text
  rw [e]
  show (if c.used + text.length < c.size then c.size - (c.used + text.length) else 0) = availOf c - text.length
  unfold availOf
  split <;> split <;> omega

theorem tsSimple_eq (c : TSCtx) (ps : Nat) (text : List UInt8) :
    tsSimple c (availOf c) ps text = emit true { c with pstate := ps } text :=
  tsFinish_eq _ _ _

theorem tsComma_eq (c : TSCtx) :
    tsComma c (availOf c) = (emit false c [0x2c], availOf (emit false c [0x2c])) := by
  rw [availOf_emit]
  unfold tsComma emit tsAdvance dstOf
  dsimp only
  generalize snp c (if availOf c > 0 then some c.used else none) (availOf c) [0x2c] = c'
  have ea : (if availOf c > 0 then availOf c - 1 else availOf c) = availOf c - 1 := by split <;> omega
  cases h2 : checkBoundary c'.used 1 c'.size <;> simp [ea]

/-- the comma leaves `avail` what the callback would compute afresh -/
theorem tsCommaIf_inv (hle : size ≤ m0.size) (hs : size < two64) (h : WInv size m0 c t) (p : Prop)
    [Decidable p] :
    WInv size m0 (tsCommaIf p c (availOf c)).1 (t ++ if p then [0x2c] else []) ∧
    (tsCommaIf p c (availOf c)).1.pstate = c.pstate ∧
    (tsCommaIf p c (availOf c)).2 = availOf (tsCommaIf p c (availOf c)).1 := by
  unfold tsCommaIf
  by_cases hp : p
  · rw [if_pos hp, if_pos hp, tsComma_eq]
    have := emit_inv hle hs h false [0x2c]
    exact ⟨this.1, this.2.1, rfl⟩
  · rw [if_neg hp, if_neg hp, List.append_nil]
    exact ⟨h, rfl, rfl⟩

theorem to5_inv (h : WInv size m0 c t) :
    WInv size m0 (to5 c) t ∧ availOf (to5 c) = availOf c ∧ (to5 c).pstate = if c.pstate = 4 then 5 else c.pstate := by
  unfold to5
  split
  · exact ⟨h.setPs 5, rfl, rfl⟩
  · exact ⟨h, rfl, rfl⟩

/-- the prefix `"0x` of a bytes value is one store at the cursor: its `avail` is 0 after a failed boundary test, else 3 less -/
theorem tsBytesPre_eq (c : TSCtx) (hs : c.size < two64) :
    tsBytesPre c (availOf c) =
      (emit false c (strBytes "\"0x"), availOf (emit false c (strBytes "\"0x"))) := by
  have hl : (strBytes "\"0x").length = 3 := by rw [strBytes_q0x]; rfl
  rw [availOf_emit, hl]
  unfold tsBytesPre emit tsAdvance
  obtain ⟨m, f, e⟩ := snp_eq c (dstOf c (availOf c)) (availOf c) (strBytes "\"0x")
  rw [e, hl]
  dsimp only
  rw [checkBoundary_eq _ _ _ (by simp [two64]) hs]
  by_cases hfit : c.used + 3 ≤ c.size
  · have : availOf c ≥ 3 := by unfold availOf; split <;> omega
    simp [hfit, this]
  · have : availOf c - 3 = 0 := by unfold availOf; split <;> omega
    simp [hfit, this]

theorem hexLoop_zero (c : TSCtx) (base : Option Nat) : ∀ (data : List UInt8) (ret : Nat),
    hexLoop c base 0 ret data = (c, ret + 2 * data.length) := by
  intro data
  induction data with
  | nil => intro ret; rfl
  | cons b r ih =>
    intro ret
    rw [hexLoop, snp_zero, ih]
    simp only [List.length_cons]
    congr 1
    omega

/-- the hex loop when nothing is cut off and all of its output and two more bytes fit behind the
    content `pre`: it changes the destination only, which then holds `pre` and the digits -/
theorem hexLoop_inv (hle : size ≤ m0.size) {u avail : Nat} :
    ∀ (data : List UInt8) (c : TSCtx) (ret : Nat) (pre : List UInt8), Safe size m0 c →
    pre.length = u + ret → pre <+: c.mem.toList → ret + 2 * data.length + 1 < avail →
    u + ret + 2 * data.length + 2 ≤ size →
    ∃ m f, hexLoop c (some u) avail ret data = ({ c with mem := m, fault := f }, ret + 2 * data.length) ∧
      Safe size m0 { c with mem := m, fault := f } ∧ pre ++ hexAll data <+: m.toList := by
  intro data
  induction data with
  | nil =>
    intro c ret pre hsafe _ hpre _ _
    exact ⟨c.mem, c.fault, rfl, hsafe, by rw [hexAll, List.append_nil]; exact hpre⟩
  | cons b r ih =>
    intro c ret pre hsafe hlen hpre hav hfit
    rw [List.length_cons] at hav hfit
    have hh : (hex2 b).length = 2 := rfl
    have h1 := snp_inv hle hsafe pre (hex2 b) (if avail > 0 then (some u).map (· + ret) else none) avail
      (fun hpos => ⟨by rw [if_pos hpos, hlen]; rfl, by omega, hpre⟩)
    obtain ⟨m1, f1, e1⟩ := snp_eq c (if avail > 0 then (some u).map (· + ret) else none) avail (hex2 b)
    rw [e1] at h1
    obtain ⟨m, f, e, hsafe', hpre'⟩ := ih { c with mem := m1, fault := f1 } (ret + 2) (pre ++ hex2 b) h1.1
      (by rw [List.length_append, hh]; omega) ((List.prefix_append _ [0]).trans (h1.2 (by omega)))
      (by omega) (by omega)
    refine ⟨m, f, ?_, hsafe', by rw [hexAll, ← List.append_assoc]; exact hpre'⟩
    rw [hexLoop, e1, e, List.length_cons]
    congr 1
    omega

theorem sizeMax_val : sizeMax = 18446744073709551615 := by decide

theorem tsBytesPost_inv (hle : size ≤ m0.size) (hs : size < 2 ^ 63) (h : WInv size m0 c t)
    (data : List UInt8) :
    SInv size m0 (tsBytesPost c (availOf c) data) (t ++ (hexAll data ++ [quote])) ∧
    (tsBytesPost c (availOf c) data).pstate = c.pstate := by
  have hs64 : size < two64 := by simp only [two64]; omega
  have hT : (t ++ (hexAll data ++ [quote])).length = t.length + (0 + 2 * data.length + 1) := by
    simp [hexAll_length]
  -- the pre-check fails exactly when the rest of the text and a NUL do not fit
  have hpre : (data.length > sizeMax / 2 - 2 ∨ (!checkBoundary c.used (data.length * 2 + 2) c.size) = true) ↔
      size ≤ t.length + (0 + 2 * data.length + 1) := by
    rw [sizeMax_val, h.safe.hsize, h.used]
    by_cases hl : data.length > 18446744073709551615 / 2 - 2
    · simp only [hl, true_or, true_iff]
      omega
    · rw [checkBoundary_eq _ _ _ (by simp only [two64]; omega) hs64]
      simp only [hl, false_or, Bool.not_eq_true', decide_eq_false_iff_not]
      omega
  unfold tsBytesPost tsHexTail
  by_cases hge : size ≤ t.length + (0 + 2 * data.length + 1)
  · -- nothing more is stored
    rw [if_pos (hpre.2 hge)]
    dsimp only
    rw [hexLoop_zero, snp_zero, tsFinish_eq]
    exact ⟨(tsAdvance_inv hs64 true { c with full := true } 0 _ t.length _
      ⟨h.safe.hsize, h.safe.fault, h.safe.msize, h.safe.tail⟩ h.used hT (fun _ => hge)
      ⟨fun _ => hge, fun _ => Nat.zero_le _⟩ (fun hlt => absurd hge (Nat.not_le.2 hlt))).2 rfl, rfl⟩
  · rw [if_neg (mt hpre.1 hge)]
    dsimp only
    have hav := h.ge_avail (0 + 2 * data.length + 1)
    have hnt : 0 + 2 * data.length + 1 < availOf c := Nat.lt_of_not_le (mt hav.1 hge)
    have hpos : availOf c > 0 := Nat.lt_of_le_of_lt (Nat.zero_le _) hnt
    have hlt : t.length < size := by omega
    rw [dstOf, if_pos hpos, h.used]
    obtain ⟨m, f, e, hsafe1, hpre1⟩ := hexLoop_inv hle data c 0 t h.safe rfl (h.pre hlt) hnt (by omega)
    rw [e]
    dsimp only
    have h2 := snp_inv hle hsafe1 (t ++ hexAll data) [quote]
      (if availOf c > 0 then (some t.length).map (· + (0 + 2 * data.length)) else none) (availOf c)
      (fun _ => ⟨by rw [if_pos hpos]; simp [hexAll_length], by simp [hexAll_length]; omega, hpre1⟩)
    obtain ⟨m2, f2, e2⟩ := snp_eq { c with mem := m, fault := f }
      (if availOf c > 0 then (some t.length).map (· + (0 + 2 * data.length)) else none) (availOf c) [quote]
    rw [e2] at h2 ⊢
    rw [tsFinish_eq]
    exact ⟨(tsAdvance_inv hs64 true _ (availOf c) _ t.length _ h2.1 h.used hT
      (fun hfu => Nat.le_trans (h.full hfu) (Nat.le_add_right _ _)) hav
      (fun _ => by rw [← List.append_assoc]; exact h2.2 (by simp; omega))).2 rfl, rfl⟩

theorem SInv.congr {t t' : List UInt8} (h : SInv size m0 c t) (e : t = t') : SInv size m0 c t' := e ▸ h

theorem cb_step (hle : size ≤ m0.size) (hs : size < 2 ^ 63) (h : WInv size m0 c t) (F : Fmts) (v : EvView) :
    SInv size m0 (toStringCbV F c v) (t ++ (printCbV F c.pstate v).2) ∧
    (toStringCbV F c v).pstate = (printCbV F c.pstate v).1 := by
  have hs64 : size < two64 := by simp only [two64]; omega
  obtain ⟨tok, ad, name, span, val⟩ := v
  rw [toStringCbV_eq]
  unfold tsCb
  dsimp only
  -- the head shared by all cases: the comma (`R`), then `pstate` 4 becomes 5 (`c2`)
  have h0 := tsCommaIf_inv hle hs64 h (tok ≠ .arrEnd ∧ c.pstate = 5)
  generalize tsCommaIf (tok ≠ .arrEnd ∧ c.pstate = 5) c (availOf c) = R at h0 ⊢
  obtain ⟨hW0, hps0, hav0⟩ := h0
  have h5 := to5_inv hW0
  rw [hav0, ← h5.2.1]
  generalize to5 R.1 = c2 at h5 ⊢
  obtain ⟨hW2, -, hps2⟩ := h5
  rw [hps0] at hps2
  have hsimple := fun ps text => emit_inv hle hs64 (hW2.setPs ps) true text
  unfold printCbV
  cases tok
  case fieldName =>
    dsimp only
    have h1 := tsCommaIf_inv hle hs64 hW2 (c2.pstate = 2)
    generalize tsCommaIf (c2.pstate = 2) c2 (availOf c2) = R2 at h1 ⊢
    obtain ⟨hW3, -, hav3⟩ := h1
    rw [hav3, tsSimple_eq]
    have := emit_inv hle hs64 (hW3.setPs 2) true (quote :: (cstr name ++ [quote, 0x3a]))
    rw [hps2] at this
    exact ⟨(this.2.2 rfl).congr (by simp only [List.append_assoc]), this.2.1⟩
  case bytes =>
    dsimp only
    rw [tsBytesPre_eq c2 (by rw [hW2.safe.hsize]; exact hs64)]
    have h1 := emit_inv hle hs64 hW2 false (strBytes "\"0x")
    have := tsBytesPost_inv hle hs h1.1 span
    exact ⟨this.1.congr (by simp only [List.append_assoc]), by rw [this.2, h1.2.1, hps2]⟩
  all_goals
    dsimp only
    rw [tsSimple_eq]
  case error => exact ⟨((hsimple _ _).2.2 rfl).congr (List.append_nil _), (hsimple _ _).2.1.trans hps2⟩
  case arrEnd | string | boolean | double | integer =>
    exact ⟨((hsimple _ _).2.2 rfl).congr (List.append_assoc _ _ _), (hsimple _ _).2.1.trans (by rw [hps2])⟩
  all_goals exact ⟨((hsimple _ _).2.2 rfl).congr (List.append_assoc _ _ _), (hsimple _ _).2.1⟩

theorem toStringFoldV_cons (F : Fmts) (c : TSCtx) (v : EvView) (vs : List EvView) :
    toStringFoldV F c (v :: vs) = toStringFoldV F (toStringCbV F c v) vs := rfl

/-- the weak invariant is preserved by any run; text and `pstate` are those of the stdout callback;
    after at least one callback the strong invariant holds -/
theorem fold_inv (hle : size ≤ m0.size) (hs : size < 2 ^ 63) (F : Fmts) :
    ∀ (vs : List EvView) (c : TSCtx) (t : List UInt8), WInv size m0 c t →
    WInv size m0 (toStringFoldV F c vs) (t ++ printFoldV F c.pstate vs) ∧
    (toStringFoldV F c vs).pstate = psFoldV F c.pstate vs ∧
    (vs ≠ [] ∨ SInv size m0 c t → SInv size m0 (toStringFoldV F c vs) (t ++ printFoldV F c.pstate vs)) := by
  intro vs
  induction vs with
  | nil =>
    intro c t h
    rw [printFoldV_nil, List.append_nil]
    exact ⟨h, rfl, fun hx => hx.elim (fun hne => absurd rfl hne) id⟩
  | cons v r ih =>
    intro c t h
    have hstep := cb_step hle hs h F v
    have := ih _ _ hstep.1.w
    rw [hstep.2, List.append_assoc] at this
    exact ⟨this.1, this.2.1, fun _ => this.2.2 (Or.inr hstep.1)⟩

end Binson
