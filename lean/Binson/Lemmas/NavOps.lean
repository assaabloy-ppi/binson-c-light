/-
  Layer 4: the public calls `go_into_*`, `leave_*` against the invariant (inside the
  document), packaged as observable agreement + invariant again; leaving the root closes it at the
  end of the buffer.
-/
import Binson.Lemmas.NavOpLeave
namespace Binson

theorem leaveObject_eq {p : Parser} (hs : Shape p) (hf : (p.getLvl p.lvlIdx).flags.inObject = true) :
    leaveObject p = (if !(advance p .leaveObj none).ret then ((advance p .leaveObj none).p, decide ((advance p .leaveObj none).p.err = .none))
      else ((advance p .leaveObj none).p, true)) := by
  unfold leaveObject
  simp only [touchLvl_of_lt hs.lvlIdx_lt, hf, Bool.not_true, Bool.false_eq_true, if_false]

theorem leaveArray_eq {p : Parser} (hs : Shape p) (hf : (p.getLvl p.lvlIdx).flags.inArray = true) :
    leaveArray p = (if !(advance p .leaveArr none).ret then ((advance p .leaveArr none).p, decide ((advance p .leaveArr none).p.err = .none))
      else ((advance p .leaveArr none).p, true)) := by
  unfold leaveArray
  simp only [touchLvl_of_lt hs.lvlIdx_lt, hf, Bool.not_true, Bool.false_eq_true, if_false]

namespace Run

variable {p : Parser} {c : Cursor} {L : RLevel} {Ls : List RLevel} {pend : Option Value}

theorem top_flags (h : Run p c L Ls pend) : (p.getLvl Ls.length).flags = nflags L ∨ (p.getLvl Ls.length).flags = pflags L := by
  cases pend with
  | none => exact Or.inl h.pend.2.1
  | some v => exact Or.inr h.pend.2.2.1

theorem enter_allowed (h : Run p c L Ls pend) (op : COp) (hop : op = .enterObj ∨ op = .enterArr) (ha : c.allowed op = true) :
    ∃ v nm, pend = some v ∧ c.cur = some (annotate nm p.used v) ∧
      (op = .enterObj → ∃ fs, v = .obj fs) ∧ (op = .enterArr → ∃ xs, v = .arr xs) := by
  obtain ⟨f, fr, hfl⟩ := flat_ne_nil h.base
  have hce := h.c_eq
  rw [hfl] at hce
  cases pend with
  | none =>
    obtain ⟨_, _, h3⟩ := h.pend
    rcases h3 with h3 | ⟨n, h3, _, h5, h6⟩
    · rw [h3] at hce; rw [hce, allowed_enter_none _ _ _ _ _ hop] at ha; cases ha
    · rw [h3] at hce
      rcases hop with rfl | rfl
      · rw [hce, allowed_enter_obj] at ha; exact absurd (by simpa using ha) h5
      · rw [hce, allowed_enter_arr] at ha; exact absurd (by simpa using ha) h6
  | some v =>
    obtain ⟨_, _, _, ⟨nm, h4⟩, _⟩ := h.pend
    rw [h4] at hce
    refine ⟨v, nm, rfl, h4, ?_, ?_⟩
    · intro ho; subst ho
      rw [hce, allowed_enter_obj] at ha; exact annotate_ty_object (by simpa using ha)
    · intro ho; subst ho
      rw [hce, allowed_enter_arr] at ha; exact annotate_ty_array (by simpa using ha)

/-- `go_into_*`, once `_advance_parsing` has entered the pending container: its children `g` become the cursor's
    innermost frame -/
theorem enter_agree {g : RFrame} (h : Run p c L Ls (some g.value)) {nm : Option (Bytes × Span)}
    (hcur : c.cur = some (annotate nm p.used g.value)) {op : COp} (hop : op = .enterObj ∨ op = .enterArr)
    {p' : Parser} (hm : machNav p op = (p', true, none)) {L' : RLevel} {Ls' : List RLevel}
    (hfl : flat (L' :: Ls') = g :: flat (L :: Ls)) (hr : Run p' (mkCur c.arrayRoot p.size (flat (L' :: Ls')) none) L' Ls' none) :
    Obs p c op ∧ Agree (machNav p op).1 (c.step op).1 := by
  obtain ⟨f, fr, hf⟩ := flat_ne_nil h.base
  have hrl := rem_len h.shape h.pend.2.1
  rw [List.length_append, g.encode_value_length] at hrl
  have hce := h.c_eq
  rw [hcur] at hce
  rw [hfl] at hr
  exact obs_agree hm hce (step_enter _ _ _ (by rw [hf]; simp) _ _ g op hop (by rw [tailBytes_cons_length]; omega)) rfl rfl
    (fun it hi => by cases hi) hr

theorem step_enterObj (h : Run p c L Ls pend) (ha : c.allowed .enterObj = true) :
    Obs p c .enterObj ∧ Agree (machNav p .enterObj).1 (c.step .enterObj).1 := by
  obtain ⟨v, nm, rfl, hcur, hobj, _⟩ := h.enter_allowed .enterObj (Or.inl rfl) ha
  obtain ⟨fs, rfl⟩ := hobj rfl
  obtain ⟨e, hr⟩ := h.adv_enter_obj
  exact h.enter_agree (g := .obj fs) hcur (Or.inl rfl) (by rw [← e]; rfl) (flat_obj _ _ _) hr

theorem step_enterArr (h : Run p c L Ls pend) (ha : c.allowed .enterArr = true) :
    Obs p c .enterArr ∧ Agree (machNav p .enterArr).1 (c.step .enterArr).1 := by
  obtain ⟨v, nm, rfl, hcur, _, harr⟩ := h.enter_allowed .enterArr (Or.inr rfl) ha
  obtain ⟨xs, rfl⟩ := harr rfl
  obtain ⟨pv, b, arrs⟩ := L
  obtain ⟨e, hr⟩ := h.adv_enter_arr
  exact h.enter_agree (g := .arr xs) hcur (Or.inr rfl) (by rw [← e]; rfl) (flat_arr _ _ _ _ _) hr

/-- `leave_*` out of an inner container `g`, once `_advance_parsing` has left it -/
theorem leave_agree (h : Run p c L Ls pend) {op : COp} (hop : op = .leaveObj ∨ op = .leaveArr) {g : RFrame}
    {L' : RLevel} {Ls' : List RLevel} (hfl : flat (L :: Ls) = g :: flat (L' :: Ls')) {p' : Parser}
    (hm : machNav p op = (p', true, none)) (hr : Run p' (mkCur c.arrayRoot p.size (flat (L' :: Ls')) none) L' Ls' none) :
    Obs p c op ∧ Agree (machNav p op).1 (c.step op).1 ∧ (c.step op).1.done = false := by
  obtain ⟨f, fr, hf⟩ := flat_ne_nil hr.base
  have hc : c.step op = (mkCur c.arrayRoot p.size (flat (L' :: Ls')) none, ⟨true, none, none⟩) := by
    rw [h.c_eq, hfl, step_leave _ _ _ _ _ _ hop, cframes_isEmpty, hf]
    rfl
  have x := obs_agree hm rfl hc rfl rfl (fun it hi => by cases hi) hr
  exact ⟨x.1, x.2, by rw [hc]; rfl⟩

/-- `leave_*` out of the root container `g`: the machine is back at the depth it was initialised with -/
theorem leave_done (h : Run p c L Ls pend) {op : COp} (hop : op = .leaveObj ∨ op = .leaveArr) {g : RFrame}
    (hfl : flat (L :: Ls) = [g]) {p' : Parser} (hm : machNav p op = (p', true, none))
    (he : p'.err = .none) (hf : p'.fault = false) (ho : p'.oof = false) (hd : p'.depth = if c.arrayRoot then 1 else 0) :
    Obs p c op ∧ Agree (machNav p op).1 (c.step op).1 := by
  have hc : c.step op = (⟨c.arrayRoot, none, [], none, true⟩, ⟨true, none, none⟩) := by
    rw [h.c_eq, hfl, step_leave _ _ _ _ _ _ hop]
    rfl
  unfold Obs
  rw [hm, hc]
  exact ⟨⟨rfl, rfl, he, hf, ho, by rw [getDepth, hd]; simp [Cursor.depth, Cursor.objDepth], fun it hi => by cases hi⟩,
    Agree.done rfl rfl⟩

/-- `leave_object`; when it leaves the root (the cursor says: done), the machine has closed the root object at the
    end of the buffer -/
theorem step_leaveObj (h : Run p c L Ls pend) (ha : c.allowed .leaveObj = true) :
    Obs p c .leaveObj ∧ Agree (machNav p .leaveObj).1 (c.step .leaveObj).1 ∧
    ((c.step .leaveObj).1.done = true →
      (leaveObject p).1.used = (leaveObject p).1.size ∧ (leaveObject p).1.depth = 0 ∧ c.arrayRoot = false) := by
  have hm0 : machNav p .leaveObj = ((leaveObject p).1, (leaveObject p).2, none) := rfl
  obtain ⟨pv, b, arrs⟩ := L
  cases arrs with
  | cons xs ar =>
    rw [h.c_eq, flat_arr, allowed_leave_obj] at ha
    cases ha
  | nil =>
    obtain ⟨fs, hb⟩ := h.top_obj rfl
    simp only at hb
    subst hb
    have hfl : (p.getLvl p.lvlIdx).flags.inObject = true := by
      rw [h.lvlIdx]
      rcases h.top_flags with hf | hf <;> rw [hf] <;> rfl
    rw [leaveObject_eq h.shape hfl] at hm0
    cases Ls with
    | cons L2 Ls' =>
      obtain ⟨e, hr⟩ := h.adv_leave_obj
      rw [e] at hm0
      simp only [Bool.not_true, Bool.false_eq_true, if_false] at hm0
      obtain ⟨o, a, d⟩ := h.leave_agree (Or.inl rfl) (flat_obj _ _ _) hm0 hr
      exact ⟨o, a, fun hd => by rw [d] at hd; cases hd⟩
    | nil =>
      obtain ⟨e, e2, e3, e4, e5, e6⟩ := h.adv_leave_obj_root
      rw [e, e2] at hm0
      simp only [Bool.not_false, if_true, decide_true] at hm0
      have har : c.arrayRoot = false := by
        cases hr : c.arrayRoot with
        | false => rfl
        | true => have := h.base.1.mpr hr; cases this
      have x := h.leave_done (Or.inl rfl) (flat_obj _ _ _) hm0 e2 e4 e5 (by rw [e3, har]; rfl)
      refine ⟨x.1, x.2, fun _ => ?_⟩
      show (machNav p .leaveObj).1.used = (machNav p .leaveObj).1.size ∧ (machNav p .leaveObj).1.depth = 0 ∧ _
      rw [hm0]
      exact ⟨e6, e3, har⟩

/-- `leave_array`; when it leaves the root, the machine has closed the root array (its count is 0) at the end of
    the buffer -/
theorem step_leaveArr (h : Run p c L Ls pend) (ha : c.allowed .leaveArr = true) :
    Obs p c .leaveArr ∧ Agree (machNav p .leaveArr).1 (c.step .leaveArr).1 ∧
    ((c.step .leaveArr).1.done = true →
      (leaveArray p).1.used = (leaveArray p).1.size ∧ (leaveArray p).1.depth = 1 ∧ ((leaveArray p).1.getLvl 0).ad = 0 ∧
      c.arrayRoot = true) := by
  have hm0 : machNav p .leaveArr = ((leaveArray p).1, (leaveArray p).2, none) := rfl
  obtain ⟨pv, b, arrs⟩ := L
  cases arrs with
  | nil =>
    obtain ⟨fs, hb⟩ := h.top_obj rfl
    simp only at hb
    subst hb
    rw [h.c_eq, flat_obj, allowed_leave_arr] at ha
    cases ha
  | cons xs ar =>
    have hfl : (p.getLvl p.lvlIdx).flags.inArray = true := by
      rw [h.lvlIdx]
      rcases h.top_flags with hf | hf <;> rw [hf] <;> rfl
    rw [leaveArray_eq h.shape hfl] at hm0
    by_cases hroot : IsRootArr b ar Ls
    · obtain ⟨h1, h2, h3⟩ := hroot
      subst h1; subst h2; subst h3
      obtain ⟨e, e2, e3, e4, e5, e6, e7⟩ := h.adv_leave_arr_root
      rw [e, e2] at hm0
      simp only [Bool.not_false, if_true, decide_true] at hm0
      have har : c.arrayRoot = true := h.base.1.mp rfl
      have x := h.leave_done (Or.inr rfl) (flat_arr _ _ _ _ _) hm0 e2 e4 e5 (by rw [e3, har]; rfl)
      refine ⟨x.1, x.2, fun _ => ?_⟩
      show (machNav p .leaveArr).1.used = (machNav p .leaveArr).1.size ∧ (machNav p .leaveArr).1.depth = 1 ∧
        ((machNav p .leaveArr).1.getLvl 0).ad = 0 ∧ _
      rw [hm0]
      exact ⟨e6, e3, e7, har⟩
    · obtain ⟨e, hr⟩ := h.adv_leave_arr hroot
      rw [e] at hm0
      simp only [Bool.not_true, Bool.false_eq_true, if_false] at hm0
      obtain ⟨o, a, d⟩ := h.leave_agree (Or.inr rfl) (flat_arr _ _ _ _ _) hm0 hr
      exact ⟨o, a, fun hd => by rw [d] at hd; cases hd⟩

theorem navc_leaveObj_closed (h : Run p c L Ls pend) (ha : c.allowed .leaveObj = true)
    (hd : (c.step .leaveObj).1.done = true) :
    (leaveObject p).1.used = (leaveObject p).1.size ∧ (leaveObject p).1.depth = 0 ∧ c.arrayRoot = false :=
  (h.step_leaveObj ha).2.2 hd

theorem navc_leaveArr_closed (h : Run p c L Ls pend) (ha : c.allowed .leaveArr = true)
    (hd : (c.step .leaveArr).1.done = true) :
    (leaveArray p).1.used = (leaveArray p).1.size ∧ (leaveArray p).1.depth = 1 ∧ ((leaveArray p).1.getLvl 0).ad = 0 ∧
    c.arrayRoot = true :=
  (h.step_leaveArr ha).2.2 hd

end Run

end Binson
