/-
  Layer 0: arithmetic and bytes. Little-endian packing/unpacking, two's complement,
  minimal widths, the order on byte strings.
-/
import Binson.Spec.Value
import Binson.Spec.Decode
import Binson.Model.Parser
import Binson.Model.Writer
namespace Binson

@[simp] theorem leBytes_length (w n : Nat) : (leBytes w n).length = w := by
  induction w generalizing n with
  | zero => rfl
  | succ w ih => simp [leBytes, ih]

theorem UInt8_toNat_ofNat_mod (n : Nat) : (UInt8.ofNat (n % 256)).toNat = n % 256 := by
  simp [UInt8.toNat_ofNat']

theorem leNatL_leBytes (w n : Nat) : leNatL (leBytes w n) = n % 256 ^ w := by
  induction w generalizing n with
  | zero => simp [leBytes, leNatL, Nat.mod_one]
  | succ w ih =>
    simp only [leBytes, leNatL, ih, UInt8_toNat_ofNat_mod]
    rw [Nat.pow_succ, Nat.mul_comm (256 ^ w) 256, Nat.mod_mul]

theorem leNatL_lt (b : Bytes) : leNatL b < 256 ^ b.length := by
  induction b with
  | nil => simp [leNatL]
  | cons x r ih =>
    have hx : x.toNat < 256 := x.toNat_lt
    simp only [leNatL, List.length_cons, Nat.pow_succ]
    omega

theorem leBytes_leNatL (b : Bytes) : leBytes b.length (leNatL b) = b := by
  induction b with
  | nil => rfl
  | cons x r ih =>
    have hx : x.toNat < 256 := x.toNat_lt
    simp only [List.length_cons, leBytes, leNatL]
    have h1 : (x.toNat + 256 * leNatL r) % 256 = x.toNat := by omega
    have h2 : (x.toNat + 256 * leNatL r) / 256 = leNatL r := by omega
    rw [h1, h2, ih]
    simp

theorem leBytes_mod (w n : Nat) : leBytes w (n % 256 ^ w) = leBytes w n := by
  have h := leNatL_leBytes w n
  have := leBytes_leNatL (leBytes w n)
  rw [leBytes_length, h] at this
  exact this

theorem leBytes_append (w1 w2 n : Nat) : leBytes (w1 + w2) n = leBytes w1 n ++ leBytes w2 (n / 256 ^ w1) := by
  induction w1 generalizing n with
  | zero => simp [leBytes]
  | succ w ih =>
    have : w + 1 + w2 = (w + w2) + 1 := by omega
    rw [this]
    simp only [leBytes, ih, List.cons_append]
    congr 2
    rw [Nat.pow_succ, Nat.div_div_eq_div_mul, Nat.mul_comm]

theorem intWidthExp_eq (i : Int) :
    (intWidthExp i = 0 ∧ -128 ≤ i ∧ i ≤ 127) ∨
    (intWidthExp i = 1 ∧ ¬(-128 ≤ i ∧ i ≤ 127) ∧ -32768 ≤ i ∧ i ≤ 32767) ∨
    (intWidthExp i = 2 ∧ ¬(-32768 ≤ i ∧ i ≤ 32767) ∧ -2147483648 ≤ i ∧ i ≤ 2147483647) ∨
    (intWidthExp i = 3 ∧ ¬(-2147483648 ≤ i ∧ i ≤ 2147483647)) := by
  unfold intWidthExp
  by_cases h0 : -128 ≤ i ∧ i ≤ 127
  · rw [if_pos h0]; exact .inl ⟨rfl, h0⟩
  rw [if_neg h0]
  by_cases h1 : -32768 ≤ i ∧ i ≤ 32767
  · rw [if_pos h1]; exact .inr (.inl ⟨rfl, h0, h1⟩)
  rw [if_neg h1]
  by_cases h2 : -2147483648 ≤ i ∧ i ≤ 2147483647
  · rw [if_pos h2]; exact .inr (.inr (.inl ⟨rfl, h1, h2⟩))
  · rw [if_neg h2]; exact .inr (.inr (.inr ⟨rfl, h2⟩))

theorem intWidthExp_le_three (i : Int) : intWidthExp i ≤ 3 := by
  rcases intWidthExp_eq i with h | h | h | h <;> omega

theorem intWidth_cases (i : Int) : intWidth i = 1 ∨ intWidth i = 2 ∨ intWidth i = 4 ∨ intWidth i = 8 := by
  unfold intWidth
  rcases intWidthExp_eq i with h | h | h | h <;> rw [h.1] <;> decide

theorem intWidth_pos (i : Int) : 1 ≤ intWidth i := by
  rcases intWidth_cases i with h | h | h | h <;> omega

theorem pow256 (w : Nat) : (256 : Nat) ^ w = 2 ^ (8 * w) := by
  rw [show (256 : Nat) = 2 ^ 8 by rfl, ← Nat.pow_mul]

theorem half_pow (w : Nat) (hw : 1 ≤ w) : 2 * 2 ^ (8 * w - 1) = 2 ^ (8 * w) := by
  rw [← Nat.pow_succ']
  exact congrArg (2 ^ ·) (by omega)

/-- the powers in `sext` and `FitsWidth` as casts of natural numbers -/
theorem pow_casts (w : Nat) :
    (256 : Int) ^ w = ((2 ^ (8 * w) : Nat) : Int) ∧ (2 : Int) ^ (8 * w - 1) = ((2 ^ (8 * w - 1) : Nat) : Int) ∧
    (2 : Int) ^ (8 * w) = ((2 ^ (8 * w) : Nat) : Int) :=
  ⟨by rw [← pow256]; simp, by simp, by simp⟩

theorem fits0 (i : Int) : FitsWidth i (2^0) ↔ (-128 ≤ i ∧ i < 128) := by simp [FitsWidth]
theorem fits1 (i : Int) : FitsWidth i (2^1) ↔ (-32768 ≤ i ∧ i < 32768) := by simp [FitsWidth]
theorem fits2 (i : Int) : FitsWidth i (2^2) ↔ (-2147483648 ≤ i ∧ i < 2147483648) := by simp [FitsWidth]
theorem fits3 (i : Int) : FitsWidth i (2^3) ↔ (-9223372036854775808 ≤ i ∧ i < 9223372036854775808) := by simp [FitsWidth]

theorem fits_mono {i : Int} {w w' : Nat} (h : FitsWidth i w) (hw : w ≤ w') : FitsWidth i w' := by
  have hp : 2 ^ (8 * w - 1) ≤ 2 ^ (8 * w' - 1) := Nat.pow_le_pow_right (by decide) (by omega)
  unfold FitsWidth at h ⊢
  rw [(pow_casts _).2.1] at h ⊢
  omega

theorem intWidth_minimal (i : Int) (h : int64Min ≤ i ∧ i ≤ int64Max) :
    FitsWidth i (intWidth i) ∧ ∀ k, k < intWidthExp i → ¬ FitsWidth i (2 ^ k) := by
  unfold int64Min int64Max at h
  unfold intWidth
  -- `i` fits the chosen width and not the next smaller one, hence none below
  have below : ∀ e, ¬ FitsWidth i (2 ^ e) → ∀ k, k < e + 1 → ¬ FitsWidth i (2 ^ k) :=
    fun e hn k hk hf => hn (fits_mono hf (Nat.pow_le_pow_right (by decide) (by omega)))
  rcases intWidthExp_eq i with ⟨e, h1⟩ | ⟨e, h0, h1⟩ | ⟨e, h0, h1⟩ | ⟨e, h0⟩ <;> rw [e]
  · exact ⟨(fits0 i).mpr (by omega), fun k hk => by omega⟩
  · exact ⟨(fits1 i).mpr (by omega), below 0 (by rw [fits0]; omega)⟩
  · exact ⟨(fits2 i).mpr (by omega), below 1 (by rw [fits1]; omega)⟩
  · exact ⟨(fits3 i).mpr (by omega), below 2 (by rw [fits2]; omega)⟩

theorem emod_neg (i M : Int) (h1 : -M ≤ i) (h2 : i < 0) : i % M = i + M := by
  rw [← Int.add_emod_right i M]
  exact Int.emod_eq_of_lt (by omega) (by omega)

/-- `sext_iff` with the half range `H = 2^(8w-1)` as a variable -/
theorem sext_core (H : Nat) (i : Int) (n : Nat) :
    (n < 2 * H ∧ (if n < H then (n : Int) else n - (2 * H : Nat)) = i) ↔
      ((-(H : Int) ≤ i ∧ i < H) ∧ (i % ((2 * H : Nat) : Int)).toNat = n) := by
  constructor
  · rintro ⟨hn, rfl⟩
    by_cases hlt : n < H
    · rw [if_pos hlt, Int.emod_eq_of_lt (by omega) (by omega)]
      omega
    · rw [if_neg hlt, emod_neg _ _ (by omega) (by omega)]
      omega
  · rintro ⟨hf, rfl⟩
    by_cases hneg : i < 0
    · rw [emod_neg i _ (by omega) hneg, if_neg (by omega)]
      omega
    · rw [Int.emod_eq_of_lt (by omega) (by omega), if_pos (by omega)]
      omega

/-- two's complement: sign extension and taking the low `w` bytes are inverse bijections
    between the `w`-byte patterns and the integers that fit `w` bytes -/
theorem sext_iff (w : Nat) (hw : 1 ≤ w) (i : Int) (n : Nat) :
    (n < 256 ^ w ∧ sext w n = i) ↔ (FitsWidth i w ∧ (i % (256 : Int) ^ w).toNat = n) := by
  unfold FitsWidth sext
  obtain ⟨e1, e2, e3⟩ := pow_casts w
  rw [pow256, e1, e2, e3, ← half_pow w hw]
  exact sext_core _ i n

theorem sext_roundtrip (w : Nat) (hw : 1 ≤ w) (i : Int) (h : FitsWidth i w) :
    sext w (i % ((256 : Int) ^ w)).toNat = i :=
  ((sext_iff w hw i _).mpr ⟨h, rfl⟩).2

theorem sext_fits (w : Nat) (hw : 1 ≤ w) (n : Nat) (hn : n < 256 ^ w) :
    FitsWidth (sext w n) w ∧ ((sext w n) % ((256 : Int) ^ w)).toNat = n :=
  (sext_iff w hw _ n).mp ⟨hn, rfl⟩

@[simp] theorem encIntBody_length (i : Int) : (encIntBody i).length = intWidth i := by
  simp [encIntBody]

theorem leNatL_encIntBody (i : Int) : leNatL (encIntBody i) = (i % ((256 : Int) ^ intWidth i)).toNat := by
  unfold encIntBody
  simp only
  rw [leNatL_leBytes]
  apply Nat.mod_eq_of_lt
  have hpos : (0 : Int) < (256 : Int) ^ intWidth i := Int.pow_pos (by decide)
  have h1 := Int.emod_lt_of_pos i hpos
  have h0 := Int.emod_nonneg i (Int.ne_of_gt hpos)
  have : ((i % (256 : Int) ^ intWidth i).toNat : Int) < ((256 ^ intWidth i : Nat) : Int) := by
    rw [Int.toNat_of_nonneg h0]; simpa using h1
  exact Int.ofNat_lt.mp this

theorem sext_encIntBody (i : Int) (h : int64Min ≤ i ∧ i ≤ int64Max) :
    sext (intWidth i) (leNatL (encIntBody i)) = i := by
  rw [leNatL_encIntBody]
  exact sext_roundtrip _ (intWidth_pos i) i (intWidth_minimal i h).1

theorem wfDoc_parts {root : Root} {d : Nat} {v : Value} (h : wfDoc root d v = true) :
    wfValue v = true ∧ rootKindOk root v = true ∧
    fits (match root with | .object => d | .array => d - 1) 255 v = true := by
  unfold wfDoc at h
  simp only [Bool.and_eq_true] at h
  refine ⟨h.1.1, h.1.2, ?_⟩
  cases root <;> exact h.2

theorem wfValue_of_wfDoc {root : Root} {d : Nat} {v : Value} (h : wfDoc root d v = true) : wfValue v = true :=
  (wfDoc_parts h).1

theorem rootKindOk_of_wfDoc {root : Root} {d : Nat} {v : Value} (h : wfDoc root d v = true) : rootKindOk root v = true :=
  (wfDoc_parts h).2.1

/-! ### the byte-string order: `bytesLt` (spec) and `_cmp_name` (`cmpBytes`) -/

theorem bytesLt_cons (x y : UInt8) (xs ys : Bytes) :
    bytesLt (x :: xs) (y :: ys) = true ↔ x < y ∨ (x = y ∧ bytesLt xs ys = true) := by
  rw [bytesLt]
  by_cases h1 : x < y
  · simp [h1]
  · by_cases h2 : y < x
    · have : x ≠ y := fun e => UInt8.lt_irrefl y (e ▸ h2)
      simp [h1, h2, this]
    · have e : x = y := UInt8.le_antisymm (UInt8.not_lt.mp h2) (UInt8.not_lt.mp h1)
      simp [h1, e, UInt8.lt_irrefl]

theorem cmpBytes_order : ∀ a b : Bytes,
    (cmpBytes a b < 0 ↔ bytesLt a b = true) ∧ (cmpBytes a b = 0 ↔ a = b) ∧
    (cmpBytes a b > 0 ↔ bytesLt b a = true)
  | [], [] => by simp [cmpBytes, bytesLt]
  | [], _ :: _ => by simp [cmpBytes, bytesLt]
  | _ :: _, [] => by simp [cmpBytes, bytesLt]
  | x :: xs, y :: ys => by
    have ih := cmpBytes_order xs ys
    rw [bytesLt_cons, bytesLt_cons, cmpBytes]
    by_cases h1 : x < y
    · have h2 : ¬ y < x := fun h => UInt8.lt_irrefl x (UInt8.lt_trans h1 h)
      have h3 : x ≠ y := fun e => UInt8.lt_irrefl y (e ▸ h1)
      simp [h1, h2, h3, h3.symm]
    · by_cases h2 : y < x
      · have h3 : x ≠ y := fun e => UInt8.lt_irrefl y (e ▸ h2)
        simp [h1, h2, h3, h3.symm]
      · have e : x = y := UInt8.le_antisymm (UInt8.not_lt.mp h2) (UInt8.not_lt.mp h1)
        subst e
        simpa [UInt8.lt_irrefl] using ih

theorem cmpBytes_neg_of_lt (a b : Bytes) (h : bytesLt a b = true) : cmpBytes a b < 0 := (cmpBytes_order a b).1.mpr h

theorem bytesLt_irrefl : ∀ a : Bytes, bytesLt a a = false := by
  intro a
  have h := cmpBytes_order a a
  have h0 : cmpBytes a a = 0 := h.2.1.mpr rfl
  rw [h0] at h
  exact Bool.eq_false_iff.mpr fun hlt => absurd (h.1.mpr hlt) (by decide)

theorem bytesLt_asymm {a b : Bytes} (h : bytesLt a b = true) : bytesLt b a = false := by
  have ho := cmpBytes_order a b
  have hlt := ho.1.mpr h
  exact Bool.eq_false_iff.mpr fun hgt => by have := ho.2.2.mpr hgt; omega

theorem bytesLt_total (a b : Bytes) (h1 : bytesLt a b = false) (h2 : bytesLt b a = false) : a = b := by
  have ho := cmpBytes_order a b
  have n1 : ¬ cmpBytes a b < 0 := fun h => by rw [ho.1.mp h] at h1; cases h1
  have n2 : ¬ cmpBytes a b > 0 := fun h => by rw [ho.2.2.mp h] at h2; cases h2
  exact ho.2.1.mp (by omega)

theorem bytesLt_ne {a b : Bytes} (h : bytesLt a b = true) : a ≠ b := by
  intro e; subst e; rw [bytesLt_irrefl] at h; cases h

theorem bytesLt_trans : ∀ a b c : Bytes, bytesLt a b = true → bytesLt b c = true → bytesLt a c = true
  | a, [], _, h, _ => by cases a <;> simp [bytesLt] at h
  | _, _ :: _, [], _, h => by simp [bytesLt] at h
  | [], _ :: _, _ :: _, _, _ => rfl
  | x :: xs, y :: ys, z :: zs, h1, h2 => by
    rw [bytesLt_cons] at h1 h2 ⊢
    rcases h1 with h1 | ⟨rfl, h1⟩
    · rcases h2 with h2 | ⟨rfl, _⟩
      · exact Or.inl (UInt8.lt_trans h1 h2)
      · exact Or.inl h1
    · rcases h2 with h2 | ⟨rfl, h2⟩
      · exact Or.inl h2
      · exact Or.inr ⟨rfl, bytesLt_trans xs ys zs h1 h2⟩

end Binson
