/-
  C05 — the writer's output is the canonical encoding: the call sequence `opsOf v` of a
  well-formed value, written into a large enough buffer, leaves exactly `encode v` there,
  and `binson_parser_verify` / `binson_writer_verify` accept it.
-/
import Binson.Lemmas.WriterLemmas
import Binson.Lemmas.VerifyValid
import Binson.Model.Transcribe
namespace Binson

/-- `_int_pack_size` produces the spec's minimal-width two's complement encoding -/
theorem packInt_eq_encInt (base : UInt8) (v : Int) (h : int64Min ≤ v ∧ v ≤ int64Max) :
    packInt base v = encInt base v :=
  packInt_encInt base v

theorem pieces_opsOf (v : Value) (h : wfValue v = true) : (allPieces (opsOf v)).flatten = encode v :=
  flatten_opsOf v

theorem opsOf_valid (v : Value) (h : wfValue v = true) : ∀ op ∈ opsOf v, op.Valid :=
  valid_opsOf v h

/-- C05: writing a well-formed value into a large enough buffer produces exactly `encode v` -/
theorem write_value_encode (v : Value) (h : wfValue v = true) (m0 : Array UInt8)
    (hlen : (encode v).length ≤ m0.size) (hsz : m0.size < 2 ^ 63) :
    let w := (Writer.init m0 m0.size).1.run (opsOf v)
    w.err = .none ∧ w.used = (encode v).length ∧ w.mem.toList.take (encode v).length = encode v := by
  have htot : totalLen (allPieces (opsOf v)) = (encode v).length := by
    rw [totalLen_eq_flatten, flatten_opsOf]
  obtain ⟨h1, h2, h3⟩ := writer_run_fits (opsOf v) m0.size m0 rfl (opsOf_valid v h) (by omega) (by omega)
  rw [flatten_opsOf] at h3
  exact ⟨h1, by rw [h2, htot], by rw [h3, List.take_left' rfl]⟩

/-- not vacuous: `{"a":[1,-300]}` is well-formed and is written as its encoding -/
example :
    let v := Value.obj (.cons [0x61] (.arr (.cons (.int 1) (.cons (.int (-300)) .nil))) .nil)
    wfValue v = true ∧ encode v = [0x40, 0x14, 0x01, 0x61, 0x42, 0x10, 0x01, 0x11, 0xD4, 0xFE, 0x43, 0x41] := by
  exact ⟨by decide, by decide⟩

/-- and the model writer, run on it over a 14-byte buffer, leaves that encoding and the 2 old bytes -/
example :
    let v := Value.obj (.cons [0x61] (.arr (.cons (.int 1) (.cons (.int (-300)) .nil))) .nil)
    let m0 : Array UInt8 := Array.replicate 14 7
    ((Writer.init m0 m0.size).1.run (opsOf v)).mem.toList = encode v ++ [7, 7] := by decide

/-- C05, second half: the canonical encoding of a well-formed object document is accepted by
    `binson_parser_verify` (within the depth limit), from any allocated parser object -/
theorem written_verifies (g : Parser) (ha : Alloc g) (hmd : g.maxDepth ≤ 255) (v : Value)
    (hwf : wfDoc .object g.maxDepth v = true) (hsz : (encode v).length < 2 ^ 63) :
    (init g (encode v).toArray 1).2 = true ∧ (verify (init g (encode v).toArray 1).1).2.1 = true :=
  let h := verify_wellformed g ha hmd .object v hwf hsz; ⟨h.1, h.2.2.1⟩

/-- ... and by `binson_writer_verify` (a depth-10 parser over the bytes written so far) -/
theorem writer_verify_ok (v : Value) (hwf : wfDoc .object 10 v = true) (m0 : Array UInt8)
    (hlen : (encode v).length ≤ m0.size) (hsz : m0.size < 2 ^ 63) :
    writerVerify ((Writer.init m0 m0.size).1.run (opsOf v)) = true := by
  obtain ⟨_, hu, ht⟩ := write_value_encode v (wfValue_of_wfDoc hwf) m0 hlen hsz
  unfold writerVerify
  have hb : ((Writer.init m0 m0.size).1.run (opsOf v)).mem.extract 0 ((Writer.init m0 m0.size).1.run (opsOf v)).used = (encode v).toArray := by
    apply Array.ext'
    rw [Array.toList_extract, hu]
    simpa using ht
  simp only [hb]
  have h := verify_wellformed (garbageParser 10) ⟨rfl, by decide, rfl, rfl⟩ (by decide) .object v hwf (by omega)
  have h1 : (init (garbageParser 10) (encode v).toArray 1).2 = true := h.1
  have h2 : (verify (init (garbageParser 10) (encode v).toArray 1).1).2.1 = true := h.2.2.1
  simp [h1, h2]

end Binson
