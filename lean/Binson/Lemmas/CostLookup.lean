/-
  C16, tight form: a failed lookup re-reads at most the one name it overshot; and the
  `field` loop itself terminates (its model fuel `size + 2` is never exhausted).
-/
import Binson.Lemmas.CostRun
namespace Binson

/-- the loop state at the start of the LAST iteration the loop executes -/
def advLast : Nat → LoopSt → Option (List UInt8) → Nat → Nat → LoopSt
  | 0, st, _, _, _ => st
  | f+1, st, sn, oa, od =>
    match iter st sn oa od with
    | (st', .cont) => advLast f st' sn oa od
    | _ => st

theorem advLast_succ (f : Nat) (st : LoopSt) (sn : Option (List UInt8)) (oa od : Nat) :
    advLast (f + 1) st sn oa od =
      match iter st sn oa od with
      | (st', .cont) => advLast f st' sn oa od
      | _ => st := by
  conv => lhs; unfold advLast

/-- with enough fuel, the whole loop ends like one more iteration from `advLast` -/
theorem cost_advLast (f : Nat) (st : LoopSt) (sn : Option (List UInt8)) (oa od : Nat)
    (h : Shape st.p) (he : st.p.err = .none) (hf : st.p.size - st.p.used + 1 ≤ f) :
    Shape (advLast f st sn oa od).p ∧ (advLast f st sn oa od).p.err = .none ∧
    st.p.used ≤ (advLast f st sn oa od).p.used ∧
    advLoop f st sn oa od = advLoop 1 (advLast f st sn oa od) sn oa od := by
  induction f generalizing st with
  | zero => omega
  | succ f ih =>
    have is := iter_spec st sn oa od h he
    cases hit : iter st sn oa od with
    | mk st' out =>
    rw [hit] at is
    obtain ⟨ish, ifr, iev, icont⟩ := is
    simp only at ish ifr iev icont
    cases out with
    | ret _ | stop =>
      have e2 : advLast (f+1) st sn oa od = st := by rw [advLast_succ, hit]
      rw [e2, advLoop_succ f, advLoop_succ 0, hit]
      exact ⟨h, he, Nat.le_refl _, rfl⟩
    | cont =>
      obtain ⟨e', hu'⟩ := icont rfl
      have hsz : st'.p.size = st.p.size := ifr.1
      have hus := ish.hus
      have e2 : advLast (f+1) st sn oa od = advLast f st' sn oa od := by rw [advLast_succ, hit]
      have e1 : advLoop (f+1) st sn oa od = advLoop f st' sn oa od := by rw [advLoop_succ, hit]
      obtain ⟨a, b, c, d⟩ := ih st' ish e' (by omega)
      rw [e2, e1]
      exact ⟨a, b, by omega, d⟩

theorem cost_advLoop_one (st : LoopSt) (sn : Option (List UInt8)) (oa od : Nat) :
    (advLoop 1 st sn oa od).1 = (iter st sn oa od).1 ∧
    ((iter st sn oa od).2 = .ret false → (advLoop 1 st sn oa od).2 = .done false) := by
  rw [advLoop_succ 0]
  cases hit : iter st sn oa od with
  | mk st' out =>
  cases out with
  | ret b => exact ⟨rfl, fun hb => by cases hb; rfl⟩
  | stop => exact ⟨rfl, fun hb => by cases hb⟩
  | cont => exact ⟨rfl, fun hb => by cases hb⟩

/-- the loop state at the start of the last iteration of the call `_advance_parsing(p, scan, sn)` -/
def advanceLast (p : Parser) (scan : Scan) (sn : Option (List UInt8)) : LoopSt :=
  advLast (p.size - p.used + 2) ⟨p, some scan, 0, []⟩ sn (p.getLvl p.cur).ad p.depth

/-- **A call of `_advance_parsing` un-reads at most one name token, the last token it read.**
    With `L` the loop state at the start of the call's last iteration and `c` the token that
    iteration read (bytes `L.p.used .. c.p.used`, the furthest position the call read up to):
    either the call leaves the cursor at or beyond `c.p.used` (nothing un-read), or that token is
    one string token (a field name greater than the name looked for), the cursor is left exactly
    at its first byte, and the call returns `false` with no error set. -/
theorem advance_unreads_at_most_one_name (p : Parser) (scan : Scan) (sn : Option (List UInt8))
    (h : Shape p) (he : p.err = .none) :
    p.used ≤ (advanceLast p scan sn).p.used ∧
    (advanceLast p scan sn).p.used ≤ (classify (advanceLast p scan sn).p (advanceLast p scan sn).bc).p.used ∧
    ((classify (advanceLast p scan sn).p (advanceLast p scan sn).bc).p.used ≤ (advance p scan sn).p.used ∨
     ((classify (advanceLast p scan sn).p (advanceLast p scan sn).bc).tok = .string ∧
      (classify (advanceLast p scan sn).p (advanceLast p scan sn).bc).p.used
        = (advanceLast p scan sn).p.used + (classify (advanceLast p scan sn).p (advanceLast p scan sn).bc).bc ∧
      1 ≤ (classify (advanceLast p scan sn).p (advanceLast p scan sn).bc).bc ∧
      (advance p scan sn).p.used = (advanceLast p scan sn).p.used ∧
      (advance p scan sn).ret = false ∧ (advance p scan sn).p.err = .none ∧
      overshoot (classify (advanceLast p scan sn).p (advanceLast p scan sn).bc).p
        (classify (advanceLast p scan sn).p (advanceLast p scan sn).bc).span sn = true)) := by
  obtain ⟨s, b, hl, ha⟩ := advance_run p scan sn h he
  have hlast := cost_advLast (p.size - p.used + 2) ⟨p, some scan, 0, []⟩ sn (p.getLvl p.cur).ad p.depth h he (by simp)
  unfold advanceLast
  generalize advLast (p.size - p.used + 2) ⟨p, some scan, 0, []⟩ sn (p.getLvl p.cur).ad p.depth = L at hlast
  obtain ⟨lsh, lerr, lmono, leq⟩ := hlast
  obtain ⟨o1, o2⟩ := cost_advLoop_one L sn (p.getLvl p.cur).ad p.depth
  rw [← leq, hl] at o1 o2
  have hd := iter_overshoot_unreads_one L sn (p.getLvl p.cur).ad p.depth lsh lerr
  have hc := (classify_out lsh lerr L.bc).1
  generalize iter L sn (p.getLvl p.cur).ad p.depth = r at o1 o2 hd
  generalize classify L.p L.bc = c at hd hc ⊢
  simp only at o1 o2
  subst o1
  rw [ha]
  refine ⟨lmono, hc, ?_⟩
  rcases hd with d | ⟨d1, d2, d3, d4, d5, d6, _, d8⟩
  · exact Or.inl d
  · exact Or.inr ⟨d1, d2, d3, d4, LoopRes.done.inj (o2 d5), d6, d8⟩

theorem cost_fieldLoop_succ (f : Nat) (p : Parser) (nm : List UInt8) :
    fieldLoop (f + 1) p nm =
      if !(advance p .value (some nm)).ret then ((advance p .value (some nm)).p, false)
      else if cmpBytes nm (curNameBytes (advance p .value (some nm)).p) = 0 then ((advance p .value (some nm)).p, true)
      else if cmpBytes nm (curNameBytes (advance p .value (some nm)).p) < 0 then ((advance p .value (some nm)).p, false)
      else fieldLoop f (advance p .value (some nm)).p nm := by
  rfl

theorem cost_fieldLoop_fuel (f : Nat) (p : Parser) (nm : List UInt8) (h : Shape p)
    (hf : p.size + 2 ≤ f + p.used + p.arr2Bit) : fieldLoop (f + 1) p nm = fieldLoop f p nm := by
  induction f generalizing p with
  | zero =>
    have := h.hus; have := cost_arr2Bit_le p; omega
  | succ f ih =>
    rw [cost_fieldLoop_succ (f + 1) p, cost_fieldLoop_succ f p]
    have ha := adv_shape p .value (some nm) h
    have hz := frame_adv p .value (some nm) h
    have hp := cost_advance_value_progress p (some nm) h
    generalize advance p .value (some nm) = a at ha hz hp
    cases hret : a.ret with
    | false => simp
    | true =>
      simp only [Bool.not_true, Bool.false_eq_true, if_false]
      have hp' := hp hret
      split
      · rfl
      · split
        · rfl
        · exact ih a.p ha (by omega)

/-- **The `field` loop terminates**: the model runs it on fuel `size + 2`; any larger fuel gives
    the same result, i.e. the fuel is never what ends the loop (`while (_advance_parsing(..))`
    in `binson_parser_field_with_length` makes at most `size + 2` iterations). -/
theorem field_terminates (p : Parser) (nm : List UInt8) (h : Shape p) (k : Nat) :
    fieldLoop (p.size + 2 + k) p nm = field p nm := by
  induction k with
  | zero => rfl
  | succ k ih =>
    rw [← ih]
    exact cost_fieldLoop_fuel (p.size + 2 + k) p nm h (by omega)

/-- the parser at the start of the LAST `_advance_parsing` call the `field` loop makes -/
def fieldLast : Nat → Parser → List UInt8 → Parser
  | 0, p, _ => p
  | f+1, p, nm =>
    if !(advance p .value (some nm)).ret then p
    else if cmpBytes nm (curNameBytes (advance p .value (some nm)).p) = 0 then p
    else if cmpBytes nm (curNameBytes (advance p .value (some nm)).p) < 0 then p
    else fieldLast f (advance p .value (some nm)).p nm

theorem cost_fieldLast (f : Nat) (p : Parser) (nm : List UInt8) (h : Shape p)
    (hf : p.size + 2 ≤ f + p.used + p.arr2Bit) :
    Shape (fieldLast f p nm) ∧ p.used ≤ (fieldLast f p nm).used ∧
    (fieldLoop f p nm).1 = (advance (fieldLast f p nm) .value (some nm)).p ∧
    ((advance (fieldLast f p nm) .value (some nm)).ret = false → (fieldLoop f p nm).2 = false) := by
  induction f generalizing p with
  | zero =>
    have := h.hus; have := cost_arr2Bit_le p; omega
  | succ f ih =>
    rw [cost_fieldLoop_succ f, fieldLast]
    have ha := adv_shape p .value (some nm) h
    have hz := frame_adv p .value (some nm) h
    have hm := advance_used_mono p .value (some nm) h
    have hp := cost_advance_value_progress p (some nm) h
    cases hret : (advance p .value (some nm)).ret with
    | false =>
      simp only [Bool.not_false, if_true]
      exact ⟨h, Nat.le_refl _, by first | rfl | trivial, fun _ => by first | rfl | trivial⟩
    | true =>
      simp only [Bool.not_true, Bool.false_eq_true, if_false]
      have hp' := hp hret
      split
      · exact ⟨h, Nat.le_refl _, by first | rfl | trivial, fun hc => absurd (hret.symm.trans hc) (by decide)⟩
      · split
        · exact ⟨h, Nat.le_refl _, by first | rfl | trivial, fun hc => absurd (hret.symm.trans hc) (by decide)⟩
        · obtain ⟨a, b, c, d⟩ := ih (advance p .value (some nm)).p ha (by omega)
          exact ⟨a, Nat.le_trans hm b, c, d⟩

/-- Take any `field` call on a shaped parser that leaves no
    error set (in particular every failed lookup that is not a parse error).  Let `q` be the parser
    at the start of the last `_advance_parsing` call it makes, `L` the loop state at the start of
    that call's last iteration and `c` the token that iteration read: `c.p.used` is the furthest
    position the whole lookup read up to.  Then the parser `field` returns is the one that call
    returned, all cursors are ordered `p.used ≤ q.used ≤ L.p.used ≤ c.p.used`, and
    * either nothing was un-read: the cursor is left at or beyond `c.p.used`;
    * or the lookup overshot: the last token read is ONE string token (a name greater than the
      one looked for) and the cursor is left exactly at its first byte, so that
      `cursor + (encoded length of that one name token) = furthest position read`:
      the next call re-reads exactly that one name and nothing before it. -/
theorem failed_lookup_rereads_one_name (p : Parser) (nm : List UInt8) (h : Shape p)
    (he : (field p nm).1.err = .none) :
    (field p nm).1 = (advance (fieldLast (p.size + 2) p nm) .value (some nm)).p ∧
    p.used ≤ (fieldLast (p.size + 2) p nm).used ∧
    (fieldLast (p.size + 2) p nm).used ≤ (advanceLast (fieldLast (p.size + 2) p nm) .value (some nm)).p.used ∧
    (advanceLast (fieldLast (p.size + 2) p nm) .value (some nm)).p.used ≤
      (classify (advanceLast (fieldLast (p.size + 2) p nm) .value (some nm)).p
                (advanceLast (fieldLast (p.size + 2) p nm) .value (some nm)).bc).p.used ∧
    ((classify (advanceLast (fieldLast (p.size + 2) p nm) .value (some nm)).p
               (advanceLast (fieldLast (p.size + 2) p nm) .value (some nm)).bc).p.used ≤ (field p nm).1.used ∨
     ((field p nm).2 = false ∧
      (classify (advanceLast (fieldLast (p.size + 2) p nm) .value (some nm)).p
                (advanceLast (fieldLast (p.size + 2) p nm) .value (some nm)).bc).tok = .string ∧
      (field p nm).1.used = (advanceLast (fieldLast (p.size + 2) p nm) .value (some nm)).p.used ∧
      (field p nm).1.used +
          (classify (advanceLast (fieldLast (p.size + 2) p nm) .value (some nm)).p
                    (advanceLast (fieldLast (p.size + 2) p nm) .value (some nm)).bc).bc =
        (classify (advanceLast (fieldLast (p.size + 2) p nm) .value (some nm)).p
                  (advanceLast (fieldLast (p.size + 2) p nm) .value (some nm)).bc).p.used ∧
      overshoot (classify (advanceLast (fieldLast (p.size + 2) p nm) .value (some nm)).p
                          (advanceLast (fieldLast (p.size + 2) p nm) .value (some nm)).bc).p
                (classify (advanceLast (fieldLast (p.size + 2) p nm) .value (some nm)).p
                          (advanceLast (fieldLast (p.size + 2) p nm) .value (some nm)).bc).span (some nm) = true)) := by
  obtain ⟨qs, qm, qe, qr⟩ := cost_fieldLast (p.size + 2) p nm h (by omega)
  have qe' : (field p nm).1 = (advance (fieldLast (p.size + 2) p nm) .value (some nm)).p := qe
  have qr' : (advance (fieldLast (p.size + 2) p nm) .value (some nm)).ret = false → (field p nm).2 = false := qr
  generalize fieldLast (p.size + 2) p nm = q at qs qm qe' qr'
  have hqe : q.err = .none := by
    apply Classical.byContradiction
    intro hne
    rw [qe', advance_err q .value (some nm) hne] at he
    exact hne he
  obtain ⟨a1, a2, a3⟩ := advance_unreads_at_most_one_name q .value (some nm) qs hqe
  refine ⟨qe', qm, a1, a2, ?_⟩
  rcases a3 with d | ⟨d1, d2, _, d4, d5, _, d7⟩
  · left; rw [qe']; exact d
  · right
    refine ⟨qr' d5, d1, by rw [qe']; exact d4, by rw [qe', d4, d2], d7⟩

end Binson
