/-
  C16, tight form: the public calls, in the counted model (`Model/Counted.lean`: the last
  component is the number of tokens processed = callbacks made by the call).

  The calls that are one or two `_advance_parsing` calls: `tokens + cursor before ≤ cursor after + c`,
  i.e. `tokens ≤ bytes advanced over + c`, with `c = 1` (`next`, `next_ensure`, `go_into_*`,
  `leave_*`) and `c = 2` (`get_raw`: two `_advance_parsing` calls).

  `binson_parser_field_with_length` is a loop of VALUE-mode `_advance_parsing` calls. A call in
  the loop that lets the loop go on (it returned `true`) can have advanced ZERO bytes: on a `{` /
  `[` element of an array the first call only toggles IN_ARRAY_1 → IN_ARRAY_2 and reports the
  element (one token).  So "each continuing call advances ≥ 1 byte" is FALSE; what is true is that
  `cursor + [level is IN_ARRAY_2]` strictly increases over every call that returns `true`
  (`cost_advance_value_progress`).  With `advance_cost_tight` this gives
      tokens(field) ≤ 2 · (bytes advanced over) + 2          (`field_cost`).
  `tokens ≤ bytes + c` is false for every constant `c`: `field("x")` from inside the array
  `[{}{}…{}]` processes 3 tokens per 2 bytes (see the `#guard`s at the end of `Cost.lean`).
-/
import Binson.Lemmas.CostAdvance
import Binson.Lemmas.Safe
import Binson.Lemmas.Counted
namespace Binson

/-- cost and monotonicity of a call, in one record: `n` tokens processed, from parser `p` to parser `q` -/
structure CallCost (c : Nat) (p : Parser) (q : Parser) (n : Nat) : Prop where
  shape : Shape q
  size : q.size = p.size
  mono : p.used ≤ q.used
  cost : n + p.used ≤ q.used + c

theorem cost_adv (p : Parser) (scan : Scan) (sn : Option (List UInt8)) (h : Shape p) :
    CallCost 1 p (advance p scan sn).p (advance p scan sn).ev.length :=
  ⟨adv_shape p scan sn h, frame_adv p scan sn h, advance_used_mono p scan sn h, advance_cost_tight p scan sn h⟩

theorem CallCost.withErr {c n : Nat} {p q : Parser} (h : CallCost c p q n) (e : Err) (he : e ≠ .none) :
    CallCost c p { q with err := e } n :=
  ⟨h.shape.withErr e he, h.size, h.mono, h.cost⟩

theorem CallCost.weaken {c c' n : Nat} {p q : Parser} (h : CallCost c p q n) (hc : c ≤ c') : CallCost c' p q n :=
  ⟨h.shape, h.size, h.mono, Nat.le_trans h.cost (Nat.add_le_add_left hc _)⟩

theorem CallCost.zero {p : Parser} (h : Shape p) (c : Nat) : CallCost c p p 0 :=
  ⟨h, rfl, Nat.le_refl _, by omega⟩

theorem CallCost.seq {c1 c2 n1 n2 : Nat} {p q1 q2 : Parser} (h1 : CallCost c1 p q1 n1) (h2 : CallCost c2 q1 q2 n2) :
    CallCost (c1 + c2) p q2 (n1 + n2) :=
  ⟨h2.shape, h2.size.trans h1.size, Nat.le_trans h1.mono h2.mono, by have := h1.cost; have := h2.cost; omega⟩

theorem next_cost (p : Parser) (h : Shape p) : CallCost 1 p (nextC p).1 (nextC p).2.2 := cost_adv p .value none h
theorem goIntoObject_cost (p : Parser) (h : Shape p) : CallCost 1 p (goIntoObjectC p).1 (goIntoObjectC p).2.2 :=
  cost_adv p .enterObj none h
theorem goIntoArray_cost (p : Parser) (h : Shape p) : CallCost 1 p (goIntoArrayC p).1 (goIntoArrayC p).2.2 :=
  cost_adv p .enterArr none h

theorem nextEnsure_cost (p : Parser) (t : Ty) (h : Shape p) :
    CallCost 1 p (nextEnsureC p t).1 (nextEnsureC p t).2.2 := by
  have hn := next_cost p h
  unfold nextEnsureC
  generalize nextC p = r at hn
  obtain ⟨q, ok, n⟩ := r
  simp only at hn ⊢
  split
  · exact hn
  · split
    · exact hn.withErr _ (by simp)
    · exact hn

theorem leaveObject_cost (p : Parser) (h : Shape p) : CallCost 1 p (leaveObjectC p).1 (leaveObjectC p).2.2 := by
  unfold leaveObjectC
  simp only [touchLvl_of_lt h.lvlIdx_lt]
  split
  · exact CallCost.zero h 1
  · have := cost_adv p .leaveObj none h
    split <;> exact this

theorem leaveArray_cost (p : Parser) (h : Shape p) : CallCost 1 p (leaveArrayC p).1 (leaveArrayC p).2.2 := by
  unfold leaveArrayC
  simp only [touchLvl_of_lt h.lvlIdx_lt]
  split
  · exact CallCost.zero h 1
  · have := cost_adv p .leaveArr none h
    split <;> exact this

/-- `binson_parser_get_raw`: two `_advance_parsing` calls, `tokens ≤ bytes advanced over + 2` -/
theorem getRaw_cost (p : Parser) (h : Shape p) : CallCost 2 p (getRawC p).1 (getRawC p).2.2.2 := by
  unfold getRawC
  by_cases he : p.err ≠ .none
  · rw [if_pos he]; exact CallCost.zero h 2
  rw [if_neg he]
  by_cases ho : (p.getLvl p.cur).ctype = .object
  · simp only [if_pos ho]
    have h1 := cost_adv p .enterObj none h
    generalize advance p .enterObj none = r at h1
    cases r.ret
    · exact h1.weaken (by omega)
    · have h12 := h1.seq (cost_adv r.p .leaveObj none h1.shape)
      generalize advance r.p .leaveObj none = r2 at h12
      cases r2.ret <;> exact h12
  by_cases ha : (p.getLvl p.cur).ctype = .array
  · simp only [if_neg ho, if_pos ha]
    have h1 := cost_adv p .enterArr none h
    generalize advance p .enterArr none = r at h1
    cases r.ret
    · exact h1.weaken (by omega)
    · have h12 := h1.seq (cost_adv r.p .leaveArr none h1.shape)
      generalize advance r.p .leaveArr none = r2 at h12
      cases r2.ret <;> exact h12
  · simp only [if_neg ho, if_neg ha]
    exact CallCost.zero h 2

theorem getName_cost (p : Parser) (h : Shape p) : CallCost 0 p (getName p).1 0 := by
  unfold getName
  split
  · exact CallCost.zero h 0
  · split
    · exact CallCost.zero h 0
    · exact (CallCost.zero h 0).withErr _ (by simp)

/-- 1 if the level of the cursor is in state IN_ARRAY_2 (a `{` / `[` array element has been
    reported but not yet entered or skipped), else 0 -/
def Parser.arr2Bit (p : Parser) : Nat := if p.curFlags = .arr2 then 1 else 0

theorem cost_arr2Bit_le (p : Parser) : p.arr2Bit ≤ 1 := by
  unfold Parser.arr2Bit; split <;> omega

/-- the loop from a VALUE-mode state: a `true` result means `cursor + IN_ARRAY_2 bit` went up
    (by the toggle alone if the cursor stood still; from IN_ARRAY_2 the cursor itself moves) -/
theorem cost_advLoop_value (f : Nat) (st : LoopSt) (sn : Option (List UInt8)) (oa od : Nat)
    (h : Shape st.p) (he : st.p.err = .none) (hf : st.p.size - st.p.used + 1 ≤ f) (hs : st.scan = some .value)
    (hr : (advLoop f st sn oa od).2 = .done true) :
    st.p.used + st.p.arr2Bit + 1 ≤ (advLoop f st sn oa od).1.p.used + (advLoop f st sn oa od).1.p.arr2Bit := by
  induction f generalizing st with
  | zero => omega
  | succ f ih =>
    have is := iter_spec st sn oa od h he
    have iv := cost_iter_value st sn oa od h he hs
    rw [advLoop_succ] at hr ⊢
    generalize iter st sn oa od = r at is iv hr
    obtain ⟨st', out⟩ := r
    obtain ⟨ish, ifr, _, icont, im⟩ := is
    obtain ⟨iv1, iv2, iv3⟩ := iv
    simp only at ish ifr icont im iv1 iv2 iv3
    have hb := cost_arr2Bit_le st.p
    cases out with
    | ret b =>
      have hb : b = true := by
        have : (LoopRes.done b) = .done true := hr
        cases this; rfl
      rw [hb] at iv1; exact absurd rfl iv1
    | stop =>
      show st.p.used + st.p.arr2Bit + 1 ≤ st'.p.used + st'.p.arr2Bit
      by_cases hz : st'.p.used = st.p.used
      · obtain ⟨z1, z2⟩ := iv2 rfl hz
        unfold Parser.arr2Bit; rw [if_pos z2, if_neg (by rw [z1]; decide)]; omega
      · by_cases ha : st.p.curFlags = .arr2
        · have := (iv3 ha).1 rfl
          unfold Parser.arr2Bit at hb ⊢; rw [if_pos this]; omega
        · unfold Parser.arr2Bit; rw [if_neg ha]; omega
    | cont =>
      obtain ⟨e', hu'⟩ := icont rfl
      have hf' : st'.p.size - st'.p.used + 1 ≤ f := by have := ifr.1; have := ish.hus; omega
      show st.p.used + st.p.arr2Bit + 1 ≤ (advLoop f st' sn oa od).1.p.used + (advLoop f st' sn oa od).1.p.arr2Bit
      by_cases ha : st.p.curFlags = .arr2
      · have := ih st' ish e' hf' ((iv3 ha).2 rfl) hr
        omega
      · have := (advLoop_spec f st' sn oa od ish e' hf').mono
        unfold Parser.arr2Bit; rw [if_neg ha]; omega

/-- **Progress of a VALUE-mode call that returns `true`** (`next`, and every call inside `field`
    after which the `field` loop goes on): `cursor + IN_ARRAY_2 bit` strictly increases. -/
theorem cost_advance_value_progress (p : Parser) (sn : Option (List UInt8)) (h : Shape p)
    (hr : (advance p .value sn).ret = true) :
    p.used + p.arr2Bit + 1 ≤ (advance p .value sn).p.used + (advance p .value sn).p.arr2Bit := by
  by_cases he : p.err = .none
  · obtain ⟨s, b, hl, ha⟩ := advance_run p .value sn h he
    have hv := cost_advLoop_value (p.size - p.used + 2) ⟨p, some .value, 0, []⟩ sn (p.getLvl p.cur).ad p.depth h he (by simp) rfl
    rw [ha] at hr ⊢
    rw [hl] at hv
    exact hv (congrArg LoopRes.done hr)
  · rw [advance_err p .value sn he] at hr
    cases hr

theorem cost_fieldLoopC (f : Nat) (p : Parser) (nm : List UInt8) (c : Nat) (h : Shape p) :
    Shape (fieldLoopC f p nm c).1 ∧ (fieldLoopC f p nm c).1.size = p.size ∧ p.used ≤ (fieldLoopC f p nm c).1.used ∧
    (fieldLoopC f p nm c).2.2 + 2 * p.used + p.arr2Bit ≤ c + 2 * (fieldLoopC f p nm c).1.used + 2 := by
  induction f generalizing p c with
  | zero =>
    unfold fieldLoopC
    have := cost_arr2Bit_le p
    exact ⟨h, rfl, Nat.le_refl _, by simp only; omega⟩
  | succ f ih =>
    have ha := adv_shape p .value (some nm) h
    have hz := frame_adv p .value (some nm) h
    have hm := advance_used_mono p .value (some nm) h
    have hc := advance_cost_tight p .value (some nm) h
    have hp := cost_advance_value_progress p (some nm) h
    have hb := cost_arr2Bit_le p
    have hb' := cost_arr2Bit_le (advance p .value (some nm)).p
    unfold fieldLoopC
    simp only
    generalize advance p .value (some nm) = a at ha hz hm hc hp hb'
    cases hret : a.ret with
    | false =>
      simp only [Bool.not_false, if_true]
      exact ⟨ha, hz, hm, by omega⟩
    | true =>
      simp only [Bool.not_true, Bool.false_eq_true, if_false]
      have hp' := hp hret
      split
      · exact ⟨ha, hz, hm, by simp only; omega⟩
      · split
        · exact ⟨ha, hz, hm, by simp only; omega⟩
        · obtain ⟨i1, iz, i2, i3⟩ := ih a.p (c + a.ev.length) ha
          exact ⟨i1, iz.trans hz, Nat.le_trans hm i2, by omega⟩

theorem field_cost (p : Parser) (nm : List UInt8) (h : Shape p) :
    Shape (fieldC p nm).1 ∧ (fieldC p nm).1.size = p.size ∧ p.used ≤ (fieldC p nm).1.used ∧
    (fieldC p nm).2.2 + 2 * p.used ≤ 2 * (fieldC p nm).1.used + 2 := by
  obtain ⟨a, z, b, c⟩ := cost_fieldLoopC (p.size + 2) p nm 0 h
  exact ⟨a, z, b, by unfold fieldC; omega⟩

theorem fieldEnsure_cost (p : Parser) (nm : List UInt8) (t : Ty) (h : Shape p) :
    Shape (fieldEnsureC p nm t).1 ∧ (fieldEnsureC p nm t).1.size = p.size ∧ p.used ≤ (fieldEnsureC p nm t).1.used ∧
    (fieldEnsureC p nm t).2.2 + 2 * p.used ≤ 2 * (fieldEnsureC p nm t).1.used + 2 := by
  have hf := field_cost p nm h
  unfold fieldEnsureC
  generalize fieldC p nm = r at hf
  obtain ⟨q, ok, n⟩ := r
  simp only at hf ⊢
  split
  · exact hf
  · split
    · exact hf
    · exact ⟨hf.1.withErr _ (by simp), hf.2.1, hf.2.2.1, hf.2.2.2⟩

end Binson
