/-
  Traversal on ARBITRARY bytes: `binson_parser_leave_object` - whenever it returns true
  from depth d >= 1 (object-rooted parser), no error is pending, the depth is d - 1 and at
  least one byte has been consumed.
-/
import Binson.Lemmas.WalkRaw
namespace Binson

/-- `C` (goes on), `S` (stops), `R` (returns) of `WalkPost` for `leave_object`; `od`: the depth at the call -/
def walkLoC (od : Nat) (q : Parser) (s : Option Scan) : Prop := s = some .leaveObj ∧ od ≤ q.depth
def walkLoS (od : Nat) (q : Parser) : Prop := q.err = .none ∧ q.depth + 1 = od ∧ 1 ≤ q.used
def walkLoR (od : Nat) (q : Parser) : Prop := q.err ≠ .none ∨ (q.depth + 1 = od ∧ 1 ≤ q.used)

theorem walk_lo_dispatch (st : LoopSt) (q : Parser) (lv : Level) (tok : Tok) (span : Span) (bc oa od : Nat)
    (hq : Shape q) (he : q.err = .none) (hin : InBuf q lv span) (hpt : q.ptype = 1) (hod : 1 ≤ od) (hd : od ≤ q.depth) :
    WalkPost (dispatch st q lv q.lvlIdx (some .leaveObj) tok span bc none oa od) (walkLoC od) (walkLoS od) (walkLoR od) := by
  generalize hr : dispatch st q lv q.lvlIdx (some .leaveObj) tok span bc none oa od = r
  have hli := hq.lvlIdx_lt
  cases tok with
  | objBegin =>
    rcases (caseObjBegin_full he hli hq.hcur hq.hlv hr).1 with ⟨h2, e, _⟩ | ⟨_, _, h2, hs, _, _, d, _⟩ | ⟨g, _⟩
    · exact .ret h2 (Or.inl e)
    · exact .cont h2 ⟨hs, by omega⟩
    · cases g
  | objEnd =>
    rcases (caseObjEnd_full he hli hq.hcur rfl hr).1 with
      ⟨h2, e, _⟩ | ⟨_, g, _⟩ | ⟨_, _, _, h1, h2, hs, e, u, d, _⟩ | ⟨_, _, _, h1, h2, e, u, _, d, _⟩
    · exact .ret h2 (Or.inl e)
    · rcases g with g | ⟨ho, g⟩
      · cases g
      · rw [if_pos ho] at g; cases g
    · by_cases ho : od = q.depth
      · rw [if_pos ho] at h2
        exact .stop h2 ⟨e, by omega, by omega⟩
      · rw [if_neg ho] at h2 hs
        exact .cont h2 ⟨hs, by omega⟩
    · exact .ret h2 (Or.inr ⟨by omega, by omega⟩)
  | fieldName =>
    rcases (caseFieldName_full he hli hq.hcur hin (s' := some .leaveObj) (by split <;> rfl) hr).1 with ⟨h2, e, _⟩ | ⟨_, _, g, _⟩ | ⟨_, h2, hs, W⟩
    · exact .ret h2 (Or.inl e)
    · cases g
    · exact .cont h2 ⟨hs, by rw [W.depth]; exact hd⟩
  | arrBegin =>
    rcases (caseArrBegin_full he hli hq.hcur hr).1 with ⟨h2, e, _⟩ | ⟨_, _, h2, hs, W⟩ | ⟨g, _⟩
    · exact .ret h2 (Or.inl e)
    · exact .cont h2 ⟨hs, by rw [W.depth]; exact hd⟩
    · cases g
  | arrEnd =>
    rcases (caseArrEnd_full he hli hq.hcur (s' := some .leaveObj) (by split <;> rfl) hr).1 with
      ⟨h2, e, _⟩ | ⟨_, g, _⟩ | ⟨_, _, _, _, h2, hs, W⟩ | ⟨_, _, _, hp, _⟩
    · exact .ret h2 (Or.inl e)
    · cases g
    · exact .cont h2 ⟨hs, by rw [W.depth]; exact hd⟩
    · rw [hpt] at hp; cases hp
  | string | boolean | double | integer | bytes | error =>
    rw [dispatch_scalar (by decide)] at hr
    rcases (caseScalar_full he hli hq.hcur hin.1 hr).1 with ⟨h2, e, _⟩ | ⟨_, _, h2, hs, W⟩
    · exact .ret h2 (Or.inl e)
    · exact .cont h2 ⟨hs, by rw [W.depth]; exact hd⟩

theorem walk_lo_iter (st : LoopSt) (oa od : Nat) (hs : Shape st.p) (he : st.p.err = .none) (hpt : st.p.ptype = 1)
    (hod : 1 ≤ od) (hJ : walkLoC od st.p st.scan) :
    WalkPost (iter st none oa od) (walkLoC od) (walkLoS od) (walkLoR od) := by
  refine walk_iter_post hs he (fun q hq => Or.inl hq) (fun c lv tok hC _ hin => ?_)
  rw [hJ.1] at hin ⊢
  rw [walk_arrBlock_scan_ne _ _ _ _ (by decide)]
  exact walk_lo_dispatch _ _ _ _ _ _ _ _ hC.shape hC.err hin (hC.ptype.trans hpt) hod (by rw [hC.depth]; exact hJ.2)

theorem walk_lo_advance (p : Parser) (hs : Shape p) (he : p.err = .none) (hpt : p.ptype = 1) (hd : 1 ≤ p.depth) :
    walkLoS p.depth (advance p .leaveObj none).p ∨
    ((advance p .leaveObj none).ret = false ∧ walkLoR p.depth (advance p .leaveObj none).p) :=
  walk_mode_adv p hs he .leaveObj none (walkLoC p.depth) (walkLoS p.depth) (walkLoR p.depth) ⟨rfl, Nat.le_refl _⟩
    (fun st i1 i2 i3 i4 => walk_lo_iter st _ _ i1 i2 (i3.trans hpt) hd i4)

theorem walk_leaveObject_true (p : Parser) (hs : Shape p) (hpt : p.ptype = 1) (hd : 1 ≤ p.depth)
    (h : (leaveObject p).2 = true) :
    p.err = .none ∧ (leaveObject p).1.err = .none ∧ (leaveObject p).1.depth + 1 = p.depth ∧ 1 ≤ (leaveObject p).1.used := by
  obtain ⟨_, he, e, hret⟩ := walk_leave_true (by unfold leaveObject; rw [touchLvl_of_lt hs.lvlIdx_lt]) h
  rw [e]
  rcases walk_lo_advance p hs he hpt hd with ⟨a1, a2, a3⟩ | ⟨hc, hR⟩
  · exact ⟨he, a1, a2, a3⟩
  · rcases hret with hret | hen
    · rw [hc] at hret; cases hret
    · rcases hR with hR | ⟨a2, a3⟩
      · exact absurd hen hR
      · exact ⟨he, hen, a2, a3⟩

end Binson
