/-
  Layer 4: the agreement invariant between the machine and the reference cursor.
-/
import Binson.Lemmas.NavItem
namespace Binson

/-- the open arrays of one state entry are well formed and within the nesting budget -/
def NArrsOk (d : Nat) : List Elems → Prop
  | [] => True
  | xs :: r => wfElems xs = true ∧ fitsE d (255 - (r.length + 1)) xs = true ∧ NArrsOk d r

/-- state entry `j` describes `L` (flags apart) -/
structure LvlOk (p : Parser) (j : Nat) (L : RLevel) : Prop where
  ad : (p.getLvl j).ad = L.arrs.length
  name : (p.getLvl j).name.map p.slice = L.prev
  base : ∀ fs, L.base = some fs → wfFields L.prev fs = true ∧ fitsF (p.maxDepth - (j + 1)) fs = true
  arrs : NArrsOk (p.maxDepth - (j + 1)) L.arrs

/-- `nflags` (n for normal): flags of an entry between two children; `pflags` (p for pending, the definition
    that follows): flags of an entry in front of a container child `next` stopped at -/
def nflags (L : RLevel) : Flags := match L.arrs with | [] => .expField | _ :: _ => .arr1
def pflags (L : RLevel) : Flags := match L.arrs with | [] => .expValue | _ :: _ => .arr2

/-- the entries below the current one: suspended inside the child that was entered -/
def SuspOk (p : Parser) : List RLevel → Prop
  | [] => True
  | L :: r => LvlOk p r.length L ∧ (p.getLvl r.length).flags = nflags L ∧ SuspOk p r

/-- every entry has an object at its base, except the bottom one of an array document -/
def BaseOk (ar : Bool) : RLevel → List RLevel → Prop
  | L, [] => (L.base = none ↔ ar = true) ∧ (L.base = none → L.arrs ≠ [])
  | L, L' :: r => L.base ≠ none ∧ BaseOk ar L' r

/-- the child made current by the last `next`/lookup: a scalar (consumed, its type in the entry), or
    a container still in front of the cursor -/
def Pend (p : Parser) (c : Cursor) (j : Nat) (L : RLevel) (T : Bytes) : Option Value → Prop
  | none => p.rem = T ∧ (p.getLvl j).flags = nflags L ∧
      (c.cur = none ∨ ∃ n, c.cur = some n ∧ (p.getLvl j).ctype = n.item.ty ∧ n.item.ty ≠ .object ∧ n.item.ty ≠ .array)
  | some v => v.isContainer = true ∧ p.rem = encode v ++ T ∧ (p.getLvl j).flags = pflags L ∧
      (∃ nm, c.cur = some (annotate nm p.used v)) ∧ (p.getLvl j).ctype = (annotate none 0 v).item.ty ∧
      wfValue v = true ∧ fits (p.maxDepth - (j + 1)) (255 - L.arrs.length) v = true

/-- machine `p` and cursor `c` are inside the document: current entry `L`, entries below `Ls` -/
structure Run (p : Parser) (c : Cursor) (L : RLevel) (Ls : List RLevel) (pend : Option Value) : Prop where
  shape : Shape p
  err : p.err = .none
  md : p.maxDepth ≤ 255
  depth : p.depth = Ls.length + 1
  zeros : ∀ i, p.depth ≤ i → p.getLvl i = Level.zero
  aroot : c.arrayRoot = true ↔ p.ptype = 2
  base : BaseOk c.arrayRoot L Ls
  top : LvlOk p Ls.length L
  susp : SuspOk p Ls
  frames : c.frames = cframes p.size (flat (L :: Ls))
  root : c.root = none
  done : c.done = false
  pend : Pend p c Ls.length L (tailBytes (flat (L :: Ls))) pend

/-- the agreement relation: before the root is entered, inside, after the root has been left -/
inductive Agree (p : Parser) (c : Cursor) : Prop
  | start (root : Root) (v : Value) (hc : c = Cursor.start root v)
      (hF : Fresh p (encode v).toArray (rootNum root) p.maxDepth) (hmd : p.maxDepth ≤ 255)
      (hwf : wfDoc root p.maxDepth v = true) : Agree p c
  | run (L : RLevel) (Ls : List RLevel) (pend : Option Value) (h : Run p c L Ls pend) : Agree p c
  | done (hf : c.frames = []) (hd : c.done = true) : Agree p c

/-- what `NavOk` asks of one call -/
def Obs (p : Parser) (c : Cursor) (op : COp) : Prop :=
  (machNav p op).2.1 = (c.step op).2.ok ∧
  (machNav p op).2.2 = (if (c.step op).2.ok then (c.step op).2.raw else none) ∧
  (machNav p op).1.err = .none ∧
  (machNav p op).1.fault = false ∧ (machNav p op).1.oof = false ∧
  getDepth (machNav p op).1 = (c.step op).1.depth ∧
  (∀ it, (c.step op).2.item = some it → ItemMatches (machNav p op).1 it)

theorem map_slice_congr {p q : Parser} (hb : q.buf = p.buf) (o : Option Span) : o.map q.slice = o.map p.slice := by
  cases o with
  | none => rfl
  | some s => simp only [Option.map]; rw [slice_congr hb]

theorem LvlOk.withArrs {p q : Parser} {j : Nat} {L : RLevel} (h : LvlOk p j L) {ar : List Elems}
    (had : (q.getLvl j).ad = ar.length) (hn : (q.getLvl j).name = (p.getLvl j).name)
    (hb : q.buf = p.buf) (hm : q.maxDepth = p.maxDepth) (harrs : NArrsOk (p.maxDepth - (j + 1)) ar) :
    LvlOk q j ⟨L.prev, L.base, ar⟩ :=
  ⟨had, by rw [hn, map_slice_congr hb]; exact h.name, by rw [hm]; exact h.base, by rw [hm]; exact harrs⟩

theorem LvlOk.transfer {p q : Parser} {j : Nat} {L : RLevel} (h : LvlOk p j L)
    (had : (q.getLvl j).ad = (p.getLvl j).ad) (hn : (q.getLvl j).name = (p.getLvl j).name)
    (hb : q.buf = p.buf) (hm : q.maxDepth = p.maxDepth) : LvlOk q j L :=
  h.withArrs (had.trans h.ad) hn hb hm h.arrs

theorem SuspOk.transfer {p q : Parser} : ∀ {Ls : List RLevel}, SuspOk p Ls → (∀ i, i < Ls.length → q.getLvl i = p.getLvl i) →
    q.buf = p.buf → q.maxDepth = p.maxDepth → SuspOk q Ls
  | [], _, _, _, _ => trivial
  | L :: r, h, hl, hb, hm => by
    have e := hl r.length (by simp)
    exact ⟨h.1.transfer (by rw [e]) (by rw [e]) hb hm, by rw [e]; exact h.2.1,
      SuspOk.transfer h.2.2 (fun i hi => hl i (by simp; omega)) hb hm⟩

theorem objCount_append (a b : List RFrame) : objCount (a ++ b) = objCount a + objCount b := by
  unfold objCount; simp

theorem objCount_arrs (l : List Elems) : objCount (l.map RFrame.arr) = 0 := by
  unfold objCount
  induction l with
  | nil => rfl
  | cons x r ih => simpa [RFrame.isObj] using ih

theorem objCount_frames (L : RLevel) : objCount L.frames = if L.base = none then 0 else 1 := by
  unfold RLevel.frames
  rw [objCount_append, objCount_arrs]
  cases L.base <;> rfl

theorem objCount_flat (ar : Bool) : ∀ (Ls : List RLevel) (L : RLevel), BaseOk ar L Ls →
    objCount (flat (L :: Ls)) + (if ar then 1 else 0) = Ls.length + 1
  | [], L, h => by
    show objCount (L.frames ++ []) + _ = _
    rw [List.append_nil, objCount_frames]
    by_cases hb : L.base = none
    · simp [hb, h.1.mp hb]
    · have : ar = false := by
        cases ar with
        | false => rfl
        | true => exact absurd (h.1.mpr rfl) hb
      simp [hb, this]
  | L' :: r, L, h => by
    have ih := objCount_flat ar r L' h.2
    show objCount (L.frames ++ flat (L' :: r)) + _ = _
    rw [objCount_append, objCount_frames, if_neg h.1, List.length_cons]
    omega

namespace Run

variable {p : Parser} {c : Cursor} {L : RLevel} {Ls : List RLevel} {pend : Option Value}

theorem lvlIdx (h : Run p c L Ls pend) : p.lvlIdx = Ls.length := by
  unfold Parser.lvlIdx; rw [h.depth]; simp

theorem cur (h : Run p c L Ls pend) : p.cur = Ls.length := by rw [h.shape.hcur, h.lvlIdx]

theorem cdepth (h : Run p c L Ls pend) : c.depth = p.depth := by
  unfold Cursor.depth Cursor.objDepth
  rw [h.frames, cframes_objCount, h.depth]
  exact objCount_flat c.arrayRoot Ls L h.base

theorem nil_of_depth (h : Run p c L Ls pend) (hd : p.depth = 1) : Ls = [] := by
  have := h.depth
  rw [hd] at this
  cases Ls with
  | nil => rfl
  | cons _ _ => simp at this

theorem rootArr (h : Run p c L Ls pend) : p.ptype = 2 → p.depth = 1 → 1 ≤ (p.getLvl Ls.length).ad := by
  intro h1 h2
  have hb := h.base
  rw [h.nil_of_depth h2] at hb
  obtain ⟨b1, b2⟩ := hb
  have hn := b2 (b1.mpr (h.aroot.mpr h1))
  rw [h.top.ad]
  cases ha : L.arrs with
  | nil => exact absurd ha hn
  | cons _ _ => simp

theorem atOrig (h : Run p c L Ls pend) (scan : Scan) : AtOrig ⟨p, some scan, 0, []⟩ (p.getLvl p.cur).ad p.depth :=
  ⟨h.shape, h.err, by rw [h.depth]; omega, rfl, by rw [h.shape.hcur], h.zeros, h.md,
    fun h1 h2 => by rw [h.lvlIdx]; exact h.rootArr h1 h2⟩

end Run

end Binson
