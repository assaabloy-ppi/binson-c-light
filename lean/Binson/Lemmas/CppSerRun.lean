/-
  C15, serialize half: `Binson::serialize()` (model: `cppSerialize`) returns exactly the
  canonical encoding of the map content, on both paths (fits the 1000-byte first try / RANGE,
  then a second pass into a vector of the reported size).

  The only hypotheses needed are
    * `lensOk`: every string, bytes and field-name length is ≤ INT32_MAX (otherwise the writer
      latches FORMAT and `serialize()` returns the empty vector), and
    * the encoding is shorter than 2^64 (`size_t` counter does not wrap).
  Neither name order nor the int64 range of integers is needed (`packInt_encInt` holds of every `Int`).
-/
import Binson.Lemmas.WriterLemmas
import Binson.Model.Cpp
namespace Binson

/-! ### the recursive serializer is the call sequence `opsOf` -/

theorem run_append (w : Writer) (a b : List WOp) : w.run (a ++ b) = (w.run a).run b := by
  simp [Writer.run]

mutual
theorem cppSerItem_run (w : Writer) (v : Value) : cppSerItem w v = w.run (opsOf v) := by
  cases v with
  | bool b => simp [cppSerItem, opsOf]
  | int i => simp [cppSerItem, opsOf]
  | dbl d => simp [cppSerItem, opsOf]
  | str s => simp [cppSerItem, opsOf]
  | bytes s => simp [cppSerItem, opsOf]
  | arr xs =>
    simp only [cppSerItem, opsOf, run_cons, run_append, run_nil]
    rw [cppSerElems_run]
  | obj fs =>
    simp only [cppSerItem, opsOf, run_cons, run_append, run_nil]
    rw [cppSerItems_run]
theorem cppSerItems_run (w : Writer) (fs : Fields) : cppSerItems w fs = w.run (opsOfF fs) := by
  cases fs with
  | nil => simp [cppSerItems, opsOfF]
  | cons n v r =>
    simp only [cppSerItems, opsOfF, run_cons, run_append]
    rw [cppSerItem_run, cppSerItems_run]
theorem cppSerElems_run (w : Writer) (xs : Elems) : cppSerElems w xs = w.run (opsOfE xs) := by
  cases xs with
  | nil => simp [cppSerElems, opsOfE]
  | cons v r =>
    simp only [cppSerElems, opsOfE, run_append]
    rw [cppSerItem_run, cppSerElems_run]
end

/-- `Binson::serialize(binson_writer*)` makes exactly the calls `opsOf (.obj fs)` -/
theorem cppSerTo_run (w : Writer) (fs : Fields) : cppSerTo w fs = w.run (opsOf (.obj fs)) := by
  unfold cppSerTo
  simp only [opsOf, run_cons, run_append, run_nil]
  rw [cppSerItems_run]

/-- `Binson::serialize()` with the recursive calls abstracted to a call sequence -/
def serializeOps (ops : List WOp) : Bytes :=
  let w1 := (Writer.init (Array.replicate 1000 0) 1000).1.run ops
  let w := if w1.err = .range then (Writer.init (Array.replicate w1.counter 0) w1.counter).1.run ops else w1
  if w.err = .none then (w.mem.extract 0 w.counter).toList else []

theorem cppSerialize_eq_serializeOps (fs : Fields) : cppSerialize fs = serializeOps (opsOf (.obj fs)) := by
  unfold cppSerialize serializeOps
  simp only [cppSerTo_run]

theorem extract_prefix (m : Array UInt8) (a rest : List UInt8) (n : Nat)
    (hm : m.toList = a ++ rest) (hn : a.length = n) : (m.extract 0 n).toList = a := by
  rw [Array.toList_extract, hm]
  subst hn
  simp [List.extract]

theorem serializeOps_fit (ops : List WOp) (hv : ∀ op ∈ ops, op.Valid)
    (hfit : totalLen (allPieces ops) ≤ 1000) :
    ((Writer.init (Array.replicate 1000 0) 1000).1.run ops).err = .none ∧
    serializeOps ops = (allPieces ops).flatten := by
  obtain ⟨h1, h2, h3⟩ := writer_run_fits ops 1000 (Array.replicate 1000 0) (by simp) hv hfit (by omega)
  refine ⟨h1, ?_⟩
  unfold serializeOps
  simp only [h1, reduceCtorEq, if_false, if_true, Writer.counter, h2]
  exact extract_prefix _ _ _ _ h3 (totalLen_eq_flatten _).symm

theorem serializeOps_retry (ops : List WOp) (hv : ∀ op ∈ ops, op.Valid)
    (hbig : 1000 < totalLen (allPieces ops)) (hsz : totalLen (allPieces ops) < 2 ^ 64) :
    ((Writer.init (Array.replicate 1000 0) 1000).1.run ops).err = .range ∧
    ((Writer.init (Array.replicate 1000 0) 1000).1.run ops).counter = totalLen (allPieces ops) ∧
    serializeOps ops = (allPieces ops).flatten := by
  obtain ⟨_, _, h3, h4, _, _⟩ :=
    writer_run64 ops 1000 (Array.replicate 1000 0) (by simp) hv hsz (by omega)
  have hr : ((Writer.init (Array.replicate 1000 0) 1000).1.run ops).err = .range := h4.mpr hbig
  have hc : ((Writer.init (Array.replicate 1000 0) 1000).1.run ops).counter = totalLen (allPieces ops) := h3
  refine ⟨hr, hc, ?_⟩
  unfold serializeOps
  simp only [hr, if_true, hc]
  obtain ⟨g1, g2, g3⟩ := writer_run_fits ops _ (Array.replicate (totalLen (allPieces ops)) 0) (by simp) hv
    (Nat.le_refl _) hsz
  simp only [g1, if_true, Writer.counter, g2]
  exact extract_prefix _ _ _ _ g3 (totalLen_eq_flatten _).symm

theorem serializeOps_flatten (ops : List WOp) (hv : ∀ op ∈ ops, op.Valid)
    (hsz : totalLen (allPieces ops) < 2 ^ 64) : serializeOps ops = (allPieces ops).flatten := by
  by_cases h : totalLen (allPieces ops) ≤ 1000
  · exact (serializeOps_fit ops hv h).2
  · exact (serializeOps_retry ops hv (by omega) hsz).2.2

/-- `Binson::serialize()` returns the canonical encoding of the map content (both paths). -/
theorem cppSerialize_encode (fs : Fields) (hl : lensOkF fs = true)
    (hlen : (encode (.obj fs)).length < 2 ^ 64) :
    cppSerialize fs = encode (.obj fs) := by
  have hl' : lensOk (.obj fs) = true := by simpa [lensOk] using hl
  have hfl := flatten_opsOf (.obj fs)
  have htot : totalLen (allPieces (opsOf (.obj fs))) = (encode (.obj fs)).length := by
    rw [totalLen_eq_flatten, hfl]
  rw [cppSerialize_eq_serializeOps, serializeOps_flatten _ (valid_opsOf' _ hl') (by omega), hfl]

/-- the same for well-formed map content (names ascending, int64 integers,
    lengths ≤ INT32_MAX) shorter than 2^64 bytes -/
theorem cppSerialize_canonical (fs : Fields) (hwf : wfValue (.obj fs) = true)
    (hlen : (encode (.obj fs)).length < 2 ^ 64) :
    cppSerialize fs = encode (.obj fs) := by
  have h := lensOk_of_wf (.obj fs) hwf
  exact cppSerialize_encode fs (by simpa [lensOk] using h) hlen

theorem cppSerialize_first_try (fs : Fields) (hl : lensOkF fs = true)
    (hfit : (encode (.obj fs)).length ≤ 1000) :
    (cppSerTo (Writer.init (Array.replicate 1000 0) 1000).1 fs).err = .none ∧
    cppSerialize fs = encode (.obj fs) := by
  have hl' : lensOk (.obj fs) = true := by simpa [lensOk] using hl
  have hfl := flatten_opsOf (.obj fs)
  have htot : totalLen (allPieces (opsOf (.obj fs))) = (encode (.obj fs)).length := by
    rw [totalLen_eq_flatten, hfl]
  rw [cppSerTo_run]
  exact ⟨(serializeOps_fit _ (valid_opsOf' _ hl') (by omega)).1, cppSerialize_encode fs hl (by omega)⟩

theorem cppSerialize_retry (fs : Fields) (hl : lensOkF fs = true)
    (hbig : 1000 < (encode (.obj fs)).length) (hlen : (encode (.obj fs)).length < 2 ^ 64) :
    (cppSerTo (Writer.init (Array.replicate 1000 0) 1000).1 fs).err = .range ∧
    (cppSerTo (Writer.init (Array.replicate 1000 0) 1000).1 fs).counter = (encode (.obj fs)).length ∧
    cppSerialize fs = encode (.obj fs) := by
  have hl' : lensOk (.obj fs) = true := by simpa [lensOk] using hl
  have hfl := flatten_opsOf (.obj fs)
  have htot : totalLen (allPieces (opsOf (.obj fs))) = (encode (.obj fs)).length := by
    rw [totalLen_eq_flatten, hfl]
  rw [cppSerTo_run]
  obtain ⟨a, b, _⟩ := serializeOps_retry _ (valid_opsOf' _ hl') (by omega) (by omega)
  exact ⟨a, by rw [b, htot], cppSerialize_encode fs hl hlen⟩

end Binson
