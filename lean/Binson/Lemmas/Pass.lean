/-
  Layer 3: the pass-through lemma. Below the originating level and in a continuing
  mode, the loop consumes exactly one encoded value (resp. element list, field list), leaves
  the lower levels untouched, restores the upper levels to zero, and logs exactly the callbacks
  `viewsOf` prescribes. Here: one turn of the loop, the relation `PassedV`, and the scalar values; the
  induction over Value / Elems / Fields is in PassInd.lean.
-/
import Binson.Lemmas.PassTok
namespace Binson

theorem advLoop_cont {f : Nat} {st st' : LoopSt} {sn : Option (List UInt8)} {oa od : Nat}
    (h : iter st sn oa od = (st', .cont)) : advLoop (f + 1) st sn oa od = advLoop f st' sn oa od := by
  rw [advLoop_succ, h]

theorem advLoop_ret {f : Nat} {st st' : LoopSt} {sn : Option (List UInt8)} {oa od : Nat} {b : Bool}
    (h : iter st sn oa od = (st', .ret b)) : advLoop (f + 1) st sn oa od = (st', .done b) := by
  rw [advLoop_succ, h]

/-- the bytes a span denotes, as the print callbacks read them -/
theorem extract_eq_slice (p : Parser) (s : Span) : (p.buf.extract s.off (s.off + s.len)).toList = p.slice s := rfl

/-- result of passing a value sitting in level `lvlIdx` -/
structure PassedV (st st' : LoopSt) (v : Value) : Prop where
  base : Passed st st' (encode v).length (viewsOf (st.p.getLvl st.p.lvlIdx).ad v)
  ad : (st'.p.getLvl st.p.lvlIdx).ad = (st.p.getLvl st.p.lvlIdx).ad
  name : (st'.p.getLvl st.p.lvlIdx).name = (st.p.getLvl st.p.lvlIdx).name
  flags : (st'.p.getLvl st.p.lvlIdx).flags = afterFlags (st.p.getLvl st.p.lvlIdx) v.isArr

theorem Deep.after {st st' : LoopSt} {oa od : Nat} {len : Nat} {vs : List EvView} (hD : Deep st oa od)
    (hp : Passed st st' len vs) (had : (st'.p.getLvl st.p.lvlIdx).ad = (st.p.getLvl st.p.lvlIdx).ad) : Deep st' oa od := by
  have hi : st'.p.lvlIdx = st.p.lvlIdx := by unfold Parser.lvlIdx; rw [hp.depth]
  refine ⟨hp.moved.shape, hp.moved.err, by rw [hp.moved.scan]; exact hD.cont, by rw [hp.depth]; exact hD.d1, ?_, ?_, ?_,
    by rw [hp.moved.frame.2.2.1]; exact hD.md255⟩
  · rw [hp.depth, hi, had]; exact hD.deeper
  · intro i h; rw [hp.depth] at h; exact hp.zeros i h
  · rw [hp.moved.frame.2.2.2.1, hp.depth, hi, had]; exact hD.rootArr

/-- from the closed form of a scalar iteration to the pass relation -/
theorem scalar_passed {st : LoopSt} {sn : Option (List UInt8)} {oa od : Nat} (hD : Deep st oa od)
    (tok : Tok) (span : Span) (bc : Nat) (q : Parser) (hq : q = { st.p with used := st.p.used + bc })
    (hcl : classify st.p st.bc = ⟨tok, span, bc, q⟩) (hsp : span.off + span.len ≤ st.p.size)
    (hctx : ValCtx (st.p.getLvl st.p.lvlIdx)) (hsc : tok.isScalar = true)
    (hint : tok = .integer → intBoundsOk (parseIntVal st.p span) span.len = true)
    (v : Value) (hlen : (encode v).length = bc) (hv : v.isArr = false)
    (hview : [view st.p.buf (tok, scalarStore tok (valLevel (st.p.getLvl st.p.lvlIdx)) span st.p)] = viewsOf (st.p.getLvl st.p.lvlIdx).ad v) :
    ∃ st', iter st sn oa od = (st', .cont) ∧ st'.p.used = st.p.used + bc ∧ st'.p.buf = st.p.buf ∧ PassedV st st' v := by
  have hval : tok.isValue = true := by cases tok <;> first | rfl | cases hsc
  obtain ⟨hob, hab⟩ := blocks_value hD hctx hval (st.p.getLvl st.p.lvlIdx).ctype
  obtain ⟨st', hit, r⟩ := iter_scalar_gen (sn := sn) hD.shape hD.err tok span bc q hq hcl hsp hsc hint _ _ st.scan hob hab
  rw [hD.cont.proceed_eq] at hit
  obtain ⟨n1, n2, n3⟩ := scalarStore_fields tok (valLevel (st.p.getLvl st.p.lvlIdx)) span st.p
  generalize scalarStore tok (valLevel (st.p.getLvl st.p.lvlIdx)) span st.p = nl at r hview n1 n2 n3
  have hL : st'.p.getLvl st.p.lvlIdx = nl := (r.lvl _).trans (if_pos rfl)
  refine ⟨st', hit, r.used, r.frame.2.1, ⟨⟨⟨r.shape, r.err, by rw [r.used, hlen], r.scan, r.frame, ?_, ⟨[(tok, nl)], r.ev, hview⟩⟩, r.depth, ?_⟩,
    by rw [hL, n3]; rfl, by rw [hL, n1]; rfl, by rw [hL, n2, hv]; rfl⟩⟩
  · intro i hi; rw [r.lvl, if_neg (Nat.ne_of_lt hi)]
  · intro i hi; rw [r.lvl, if_neg (Nat.ne_of_gt (Nat.lt_of_lt_of_le (Parser.lvlIdx_lt hD.d1) hi))]; exact hD.zeros i hi

def Value.isContainer : Value → Bool
  | .arr _ | .obj _ => true
  | _ => false

theorem encInt_length (base : UInt8) (i : Int) : (encInt base i).length = 1 + intWidth i := by
  simp [encInt, Nat.add_comm]

theorem encStr_length (base : UInt8) (s : Bytes) : (encStr base s).length = 1 + intWidth (s.length : Int) + s.length := by
  simp [encStr, encInt_length]

theorem rem_fit {p : Parser} (hs : Shape p) {bs rest : Bytes} (h : p.rem = bs ++ rest) : p.used + bs.length ≤ p.size := by
  have := drop_append_len (p := p) (off := p.used) (by rw [hs.hbs]; exact hs.hus) h
  rw [← hs.hbs]; exact this.1

/-- the name the ordering check compares the next field name with -/
def prevName (p : Parser) : Option Bytes := ((p.getLvl p.lvlIdx).name).map p.slice

/-- the closed form of a field name token from the bytes, with the ordering check discharged -/
theorem name_token {st : LoopSt} (hsh : Shape st.p) (he : st.p.err = .none) (n : Bytes) (rest : Bytes)
    (hrem : st.p.rem = encStr 0x14 n ++ rest) (hn : n.length ≤ INT32_MAX) (hprev : nameAfter (prevName st.p) n = true) :
    classify st.p st.bc = ⟨.string, ⟨st.p.used + 1 + intWidth (n.length : Int), n.length⟩, 1 + intWidth (n.length : Int) + n.length,
      { st.p with used := st.p.used + 1 + intWidth (n.length : Int) + n.length }⟩ ∧
    (∀ q : Parser, q.buf = st.p.buf → q.slice ⟨st.p.used + 1 + intWidth (n.length : Int), n.length⟩ = n) ∧
    st.p.used + (1 + intWidth (n.length : Int) + n.length) ≤ st.p.size ∧
    (∀ pn, (st.p.getLvl st.p.lvlIdx).name = some pn →
        cmpBytes (st.p.slice pn) (st.p.slice ⟨st.p.used + 1 + intWidth (n.length : Int), n.length⟩) < 0) := by
  obtain ⟨c1, c2, _⟩ := classify_str hsh he st.bc _ n hn hrem
  have hfitn := rem_fit hsh hrem
  rw [encStr_length] at hfitn
  refine ⟨c1, c2, hfitn, ?_⟩
  intro pn hpn
  rw [c2 st.p rfl]
  apply cmpBytes_neg_of_lt
  unfold prevName at hprev
  rw [hpn] at hprev
  simpa [nameAfter] using hprev

theorem pass_scalar (v : Value) (hsv : v.isContainer = false) {st : LoopSt} {sn : Option (List UInt8)} {oa od : Nat}
    (hD : Deep st oa od) (rest : Bytes) (hrem : st.p.rem = encode v ++ rest) (hwf : wfValue v = true)
    (hctx : ValCtx (st.p.getLvl st.p.lvlIdx)) :
    ∃ st', iter st sn oa od = (st', .cont) ∧ st'.p.rem = rest ∧ PassedV st st' v := by
  have hsh := hD.shape
  have hfit := rem_fit hsh hrem
  have finish : ∀ (bc : Nat) (st' : LoopSt), (encode v).length = bc → st'.p.used = st.p.used + bc → st'.p.buf = st.p.buf →
      st'.p.rem = rest := fun bc st' hl hu hb => rem_of_frame hb hu hsh hrem hl
  cases v with
  | arr xs => cases hsv
  | obj fs => cases hsv
  | bool b =>
    have hrem' : st.p.rem = (if b then 0x44 else 0x45) :: rest := by simpa [encode] using hrem
    obtain ⟨c1, c2, _⟩ := classify_bool hsh hD.err st.bc rest b hrem'
    have hl : (encode (.bool b)).length = 1 := by simp [encode]
    obtain ⟨st', h1, h2, h3, h4⟩ := scalar_passed (sn := sn) hD .boolean ⟨st.p.used, 1⟩ 1 _ rfl c1
      (by rw [hl] at hfit; exact hfit) hctx rfl (fun h => by cases h) (.bool b) hl rfl (by
        simp only [scalarStore, view, viewsOf]
        rw [c2 st.p rfl])
    exact ⟨st', h1, finish 1 st' hl h2 h3, h4⟩
  | int i =>
    have hi : int64Min ≤ i ∧ i ≤ int64Max := by simpa [wfValue] using hwf
    have hrem' : st.p.rem = encInt 0x10 i ++ rest := by simpa [encode] using hrem
    obtain ⟨c1, c2, c3, _⟩ := classify_int hsh hD.err st.bc rest i hi hrem'
    have hl : (encode (.int i)).length = 1 + intWidth i := by simp [encode, encInt_length]
    rw [hl] at hfit
    obtain ⟨st', h1, h2, h3, h4⟩ := scalar_passed (sn := sn) hD .integer ⟨st.p.used + 1, intWidth i⟩ (1 + intWidth i) _ (by simp only [Nat.add_assoc]) c1
      (by simp only; omega) hctx rfl (fun _ => by rw [c2 st.p rfl]; exact c3) (.int i) hl rfl (by
        simp only [scalarStore, view, viewsOf]
        rw [c2 st.p rfl])
    exact ⟨st', h1, finish _ st' hl h2 h3, h4⟩
  | dbl bits =>
    have hrem' : st.p.rem = 0x46 :: (leBytes 8 bits.toNat ++ rest) := by simpa [encode] using hrem
    obtain ⟨c1, c2, _⟩ := classify_dbl hsh hD.err st.bc rest bits hrem'
    have hl : (encode (.dbl bits)).length = 9 := by simp [encode]
    rw [hl] at hfit
    obtain ⟨st', h1, h2, h3, h4⟩ := scalar_passed (sn := sn) hD .double ⟨st.p.used + 1, 8⟩ 9 _ rfl c1
      (by simp only; omega) hctx rfl (fun h => by cases h) (.dbl bits) hl rfl (by
        simp only [scalarStore, view, viewsOf]
        rw [c2 st.p rfl])
    exact ⟨st', h1, finish _ st' hl h2 h3, h4⟩
  | str s =>
    have hs : s.length ≤ INT32_MAX := by simpa [wfValue] using hwf
    have hrem' : st.p.rem = encStr 0x14 s ++ rest := by simpa [encode] using hrem
    obtain ⟨c1, c2, _⟩ := classify_str hsh hD.err st.bc rest s hs hrem'
    have hl : (encode (.str s)).length = 1 + intWidth (s.length : Int) + s.length := by simp [encode, encStr_length]
    rw [hl] at hfit
    obtain ⟨st', h1, h2, h3, h4⟩ := scalar_passed (sn := sn) hD .string ⟨st.p.used + 1 + intWidth (s.length : Int), s.length⟩ _ _ (by simp only [Nat.add_assoc]) c1
      (by simp only; omega) hctx rfl (fun h => by cases h) (.str s) hl rfl (by
        simp only [scalarStore, view, viewsOf, evSpan]
        have := c2 st.p rfl
        unfold Parser.slice at this
        simp only at this
        rw [this])
    exact ⟨st', h1, finish _ st' hl h2 h3, h4⟩
  | bytes s =>
    have hs : s.length ≤ INT32_MAX := by simpa [wfValue] using hwf
    have hrem' : st.p.rem = encStr 0x18 s ++ rest := by simpa [encode] using hrem
    obtain ⟨c1, c2, _⟩ := classify_bytes hsh hD.err st.bc rest s hs hrem'
    have hl : (encode (.bytes s)).length = 1 + intWidth (s.length : Int) + s.length := by simp [encode, encStr_length]
    rw [hl] at hfit
    obtain ⟨st', h1, h2, h3, h4⟩ := scalar_passed (sn := sn) hD .bytes ⟨st.p.used + 1 + intWidth (s.length : Int), s.length⟩ _ _ (by simp only [Nat.add_assoc]) c1
      (by simp only; omega) hctx rfl (fun h => by cases h) (.bytes s) hl rfl (by
        simp only [scalarStore, view, viewsOf, evSpan]
        have := c2 st.p rfl
        unfold Parser.slice at this
        simp only at this
        rw [this])
    exact ⟨st', h1, finish _ st' hl h2 h3, h4⟩

end Binson
