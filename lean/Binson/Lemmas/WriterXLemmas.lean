/-
  The writer over its FULL call vocabulary (`WOpX`: valid calls, NULL arguments, the absurd length,
  reset): no store ever leaves the destination, the error latch, and "fresh after a successful reset".
-/
import Binson.Model.WriterX
import Binson.Lemmas.WriterLemmas
namespace Binson

/-- `hugeRaw` really is what `_write` computes for a payload of SIZE_MAX bytes: the capacity test refuses it -/
theorem hugeRaw_refused (w : Writer) (hu : w.used < two64) (hc : w.cap < sizeMaxW) :
    let c := (sizeMaxW + w.used) % two64
    c > w.cap ∨ c < w.used := by
  intro c
  by_cases h0 : w.used = 0
  · left
    show (sizeMaxW + w.used) % two64 > w.cap
    rw [h0, Nat.add_zero, Nat.mod_eq_of_lt (by unfold two64 sizeMaxW; omega)]; unfold sizeMaxW at hc ⊢; omega
  · right
    show (sizeMaxW + w.used) % two64 < w.used
    have e : sizeMaxW + w.used = (w.used - 1) + two64 := by unfold two64 sizeMaxW at *; omega
    rw [e, Nat.add_mod_right, Nat.mod_eq_of_lt (by omega)]; omega

theorem stepX_invalid (w : Writer) (op : WOpX) (hv : ∀ o, op ≠ .op o) (hr : op ≠ .reset) :
    ∃ e, e ≠ .none ∧ ∃ u, w.stepX op = ({ w with err := e, used := u }, false) := by
  cases op with
  | op o => exact absurd rfl (hv o)
  | nullName => exact ⟨.null, nofun, w.used, rfl⟩
  | nullRaw n => exact ⟨.null, nofun, w.used, rfl⟩
  | hugeRaw =>
    refine ⟨if w.bufNull then Err.null else Err.range, ?_, _, rfl⟩
    split <;> exact nofun
  | reset => exact absurd rfl hr

/-- once the error flag is set, EVERY call other than a reset returns false, stores nothing
    and leaves an error set -/
theorem stepX_latched (w : Writer) (op : WOpX) (h : w.err ≠ .none) (hr : op ≠ .reset) :
    ∃ e, e ≠ .none ∧ ∃ u, w.stepX op = ({ w with err := e, used := u }, false) := by
  cases op with
  | op o => obtain ⟨e, he, eq⟩ := step_latched w o h; exact ⟨e, he, _, eq⟩
  | reset => exact absurd rfl hr
  | nullName => exact stepX_invalid w _ nofun hr
  | nullRaw n => exact stepX_invalid w _ nofun hr
  | hugeRaw => exact stepX_invalid w _ nofun hr

theorem reset_mem (w : Writer) : w.reset.1.mem = w.mem ∧ w.reset.1.fault = w.fault ∧ w.reset.1.cap = w.cap := by
  unfold Writer.reset; split
  · exact ⟨rfl, rfl, rfl⟩
  · split <;> exact ⟨rfl, rfl, rfl⟩

theorem reset_ok (w : Writer) (h : w.reset.2 = true) : w.reset.1 = { w with used := 0, err := .none } := by
  unfold Writer.reset at h ⊢
  by_cases hb : w.bufNull = true
  · simp [hb] at h
  · by_cases hc : w.cap < 2
    · simp [hb, hc] at h
    · simp [hb, hc]

theorem runX_latched : ∀ (ops : List WOpX) (w : Writer), w.err ≠ .none → (∀ op ∈ ops, op ≠ .reset) →
    ∃ e, e ≠ .none ∧ ∃ u, w.runX ops = { w with err := e, used := u }
  | [], w, h, _ => ⟨w.err, h, w.used, rfl⟩
  | op :: r, w, h, hn => by
    obtain ⟨e1, h1, u1, eq1⟩ := stepX_latched w op h (hn op (by simp))
    obtain ⟨e2, h2, u2, eq2⟩ := runX_latched r { w with err := e1, used := u1 } h1 (fun o ho => hn o (by simp [ho]))
    have e : w.runX (op :: r) = (w.stepX op).1.runX r := rfl
    exact ⟨e2, h2, u2, by rw [e, eq1, eq2]⟩

end Binson
