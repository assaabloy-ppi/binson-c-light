/-
  Soundness of verify: the rejecting branches of one loop iteration that come before
  the `switch`, and `finish` with an error pending. Each lemma says that an error is left set in
  the parser (so the iteration cannot have continued, and verify cannot report success).
-/
import Binson.Lemmas.PassRoot
namespace Binson

theorem finish_err (st : LoopSt) (tok : Tok) (p : Parser) (lv : Level) (li : Nat) (scan : Option Scan) (force : Bool)
    (he : p.err ≠ .none) : (finish st tok p lv li scan force).1.p.err ≠ .none := by
  rw [finish_eq, if_pos he, Parser.setLvl_eq]
  exact he

theorem iter_err_classify {st : LoopSt} {sn : Option (List UInt8)} {oa od : Nat}
    (hs : Shape st.p) (he : st.p.err = .none) (h : (classify st.p st.bc).tok = .error) :
    (iter st sn oa od).1.p.err ≠ .none := by
  unfold iter
  simp only [h, if_true]
  rcases classify_spec hs he st.bc with ⟨_, c⟩ | ⟨c, _⟩
  · exact c.err
  · exact absurd h c

/-- a value token other than a string where a field name is expected -/
theorem iter_err_objBlock {st : LoopSt} {sn : Option (List UInt8)} {oa od : Nat}
    (hne : (classify st.p st.bc).tok ≠ .error)
    (hf : ((classify st.p st.bc).p.getLvl (classify st.p st.bc).p.lvlIdx).flags = .expField)
    (hv : (classify st.p st.bc).tok.isValue = true) (hns : (classify st.p st.bc).tok ≠ .string) :
    (iter st sn oa od).1.p.err ≠ .none := by
  unfold iter
  generalize classify st.p st.bc = c at hne hf hv hns ⊢
  simp only [hne, if_false]
  have hob : objBlock (c.p.getLvl c.p.lvlIdx) c.tok = none := by
    unfold objBlock
    simp [hf, Flags.inObject, hns, hv]
  rw [hob]
  simp

end Binson
