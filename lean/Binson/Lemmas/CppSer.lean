/-
  C15, serialize half: `Binson::serialize()` after `put()` calls in any order returns
  the canonical encoding of the key-sorted tree (names ascending regardless of insertion
  order), and `binson_parser_verify` at depth 10 accepts it.
-/
import Binson.Lemmas.CppSerMap
import Binson.Lemmas.CppSerRun
import Binson.Lemmas.VerifyValid
namespace Binson

/-! ### what `put` preserves: lengths, well-formedness, depth, size -/

theorem lensOkF_mapPut (F : Fields) (k : Bytes) (v : Value) (h : lensOkF F = true)
    (hk : k.length ≤ INT32_MAX) (hv : lensOk v = true) : lensOkF (mapPut F k v) = true := by
  refine mapPut_ind k v (motive := fun F F' => lensOkF F = true → lensOkF F' = true) ?_ ?_ ?_ ?_ F h
  · intro _
    simp [lensOkF, hk, hv]
  · intro n x r _ h
    simpa [lensOkF, hk, hv] using h
  · intro n x r _ ih h
    have hh : (n.length ≤ INT32_MAX ∧ lensOk x = true) ∧ lensOkF r = true := by simpa [lensOkF] using h
    simp [lensOkF, hh.1.1, hh.1.2, ih hh.2]
  · intro x r h
    have hh : (k.length ≤ INT32_MAX ∧ lensOk x = true) ∧ lensOkF r = true := by simpa [lensOkF] using h
    simp [lensOkF, hk, hv, hh.2]

mutual
theorem lensOk_putAll (v : Value) (h : lensOk v = true) : lensOk (putAll v) = true := by
  cases v with
  | arr xs => exact lensOkE_putAllE xs h
  | obj fs => exact lensOkF_putAllF fs .nil h rfl
  | _ => exact h
theorem lensOkF_putAllF (fs acc : Fields) (h : lensOkF fs = true) (ha : lensOkF acc = true) :
    lensOkF (putAllF fs acc) = true := by
  cases fs with
  | nil => exact ha
  | cons n v r =>
    rw [lensOkF, Bool.and_eq_true, Bool.and_eq_true] at h
    exact lensOkF_putAllF r _ h.2 (lensOkF_mapPut acc n _ ha (of_decide_eq_true h.1.1) (lensOk_putAll v h.1.2))
theorem lensOkE_putAllE (xs : Elems) (h : lensOkE xs = true) : lensOkE (putAllE xs) = true := by
  cases xs with
  | nil => rfl
  | cons v r =>
    rw [lensOkE, Bool.and_eq_true] at h
    rw [putAllE, lensOkE, lensOk_putAll v h.1, lensOkE_putAllE r h.2]
    rfl
end

mutual
/-- `wfValue` without the name order: what each inserted value must satisfy
    (integers in int64, string / bytes / name lengths ≤ INT32_MAX) -/
def insOk : Value → Bool
  | .int i => decide (int64Min ≤ i ∧ i ≤ int64Max)
  | .str s => decide (s.length ≤ INT32_MAX)
  | .bytes s => decide (s.length ≤ INT32_MAX)
  | .arr xs => insOkE xs
  | .obj fs => insOkF fs
  | _ => true
def insOkE : Elems → Bool
  | .nil => true
  | .cons v r => insOk v && insOkE r
def insOkF : Fields → Bool
  | .nil => true
  | .cons n v r => decide (n.length ≤ INT32_MAX) && insOk v && insOkF r
end

mutual
theorem lensOk_of_insOk (v : Value) (h : insOk v = true) : lensOk v = true := by
  cases v with
  | arr xs => exact lensOkE_of_insOk xs h
  | obj fs => exact lensOkF_of_insOk fs h
  | str s => exact h
  | bytes s => exact h
  | _ => rfl
theorem lensOkE_of_insOk (xs : Elems) (h : insOkE xs = true) : lensOkE xs = true := by
  cases xs with
  | nil => rfl
  | cons v r =>
    rw [insOkE, Bool.and_eq_true] at h
    rw [lensOkE, lensOk_of_insOk v h.1, lensOkE_of_insOk r h.2]
    rfl
theorem lensOkF_of_insOk (fs : Fields) (h : insOkF fs = true) : lensOkF fs = true := by
  cases fs with
  | nil => rfl
  | cons n v r =>
    rw [insOkF, Bool.and_eq_true, Bool.and_eq_true] at h
    rw [lensOkF, h.1.1, lensOk_of_insOk v h.1.2, lensOkF_of_insOk r h.2]
    rfl
end

theorem wfFields_mapPut (F : Fields) (prev : Option Bytes) (k : Bytes) (v : Value)
    (h : wfFields prev F = true) (hk : nameAfter prev k = true) (hl : k.length ≤ INT32_MAX)
    (hv : wfValue v = true) : wfFields prev (mapPut F k v) = true := by
  refine mapPut_ind k v (motive := fun F F' => ∀ prev, wfFields prev F = true → nameAfter prev k = true →
    wfFields prev F' = true) ?_ ?_ ?_ ?_ F prev h hk
  · intro prev _ hk
    simp [wfFields, hk, hl, hv]
  · intro n x r h1 prev h hk
    have hh : ((nameAfter prev n = true ∧ n.length ≤ INT32_MAX) ∧ wfValue x = true) ∧ wfFields (some n) r = true := by
      simpa [wfFields] using h
    simp [wfFields, hk, hl, hv, nameAfter_some, h1, hh.1.1.2, hh.1.2, hh.2]
  · intro n x r h2 ih prev h _
    have hh : ((nameAfter prev n = true ∧ n.length ≤ INT32_MAX) ∧ wfValue x = true) ∧ wfFields (some n) r = true := by
      simpa [wfFields] using h
    simp [wfFields, hh.1.1.1, hh.1.1.2, hh.1.2, ih (some n) hh.2 h2]
  · intro x r prev h hk
    have hh : ((nameAfter prev k = true ∧ k.length ≤ INT32_MAX) ∧ wfValue x = true) ∧ wfFields (some k) r = true := by
      simpa [wfFields] using h
    simp [wfFields, hk, hl, hv, hh.2]

mutual
theorem wfValue_putAll (v : Value) (h : insOk v = true) : wfValue (putAll v) = true := by
  cases v with
  | arr xs => exact wfElems_putAllE xs h
  | obj fs => exact wfFields_putAllF fs .nil h rfl
  | int i => exact h
  | str s => exact h
  | bytes s => exact h
  | _ => rfl
theorem wfFields_putAllF (fs acc : Fields) (h : insOkF fs = true) (ha : wfFields none acc = true) :
    wfFields none (putAllF fs acc) = true := by
  cases fs with
  | nil => exact ha
  | cons n v r =>
    rw [insOkF, Bool.and_eq_true, Bool.and_eq_true] at h
    exact wfFields_putAllF r _ h.2
      (wfFields_mapPut acc none n _ ha rfl (of_decide_eq_true h.1.1) (wfValue_putAll v h.1.2))
theorem wfElems_putAllE (xs : Elems) (h : insOkE xs = true) : wfElems (putAllE xs) = true := by
  cases xs with
  | nil => rfl
  | cons v r =>
    rw [insOkE, Bool.and_eq_true] at h
    rw [putAllE, wfElems, wfValue_putAll v h.1, wfElems_putAllE r h.2]
    rfl
end

theorem fitsF_mapPut (d : Nat) (F : Fields) (k : Bytes) (v : Value) (h : fitsF d F = true)
    (hv : fits d 255 v = true) : fitsF d (mapPut F k v) = true := by
  refine mapPut_ind k v (motive := fun F F' => fitsF d F = true → fitsF d F' = true) ?_ ?_ ?_ ?_ F h
  · intro _
    simp [fitsF, hv]
  · intro n x r _ h
    simpa [fitsF, hv] using h
  · intro n x r _ ih h
    have hh : fits d 255 x = true ∧ fitsF d r = true := by simpa [fitsF] using h
    simp [fitsF, hh.1, ih hh.2]
  · intro x r h
    have hh : fits d 255 x = true ∧ fitsF d r = true := by simpa [fitsF] using h
    simp [fitsF, hv, hh.2]

mutual
theorem fits_putAll (d a : Nat) (v : Value) (h : fits d a v = true) : fits d a (putAll v) = true := by
  cases v with
  | arr xs =>
    rw [fits, Bool.and_eq_true] at h
    rw [putAll, fits, h.1, fitsE_putAllE d (a - 1) xs h.2]
    rfl
  | obj fs =>
    rw [fits, Bool.and_eq_true] at h
    rw [putAll, fits, h.1, fitsF_putAllF (d - 1) fs .nil h.2 rfl]
    rfl
  | _ => rfl
theorem fitsF_putAllF (d : Nat) (fs acc : Fields) (h : fitsF d fs = true) (ha : fitsF d acc = true) :
    fitsF d (putAllF fs acc) = true := by
  cases fs with
  | nil => exact ha
  | cons n v r =>
    rw [fitsF, Bool.and_eq_true] at h
    exact fitsF_putAllF d r _ h.2 (fitsF_mapPut d acc n _ ha (fits_putAll d 255 v h.1))
theorem fitsE_putAllE (d a : Nat) (xs : Elems) (h : fitsE d a xs = true) : fitsE d a (putAllE xs) = true := by
  cases xs with
  | nil => rfl
  | cons v r =>
    rw [fitsE, Bool.and_eq_true] at h
    rw [putAllE, fitsE, fits_putAll d a v h.1, fitsE_putAllE d a r h.2]
    rfl
end

theorem encFields_mapPut_length (F : Fields) (k : Bytes) (v : Value) :
    (encFields (mapPut F k v)).length ≤ (encFields F).length + ((encStr 0x14 k).length + (encode v).length) := by
  refine mapPut_ind k v (motive := fun F F' =>
    (encFields F').length ≤ (encFields F).length + ((encStr 0x14 k).length + (encode v).length)) ?_ ?_ ?_ ?_ F
  · simp [encFields]
  · intro n x r _
    simp only [encFields, List.length_append]; omega
  · intro n x r _ ih
    simp only [encFields, List.length_append]; omega
  · intro x r
    simp only [encFields, List.length_append]; omega

mutual
theorem encode_putAll_length (v : Value) : (encode (putAll v)).length ≤ (encode v).length := by
  cases v with
  | arr xs =>
    have := encElems_putAllE_length xs
    simp only [putAll, encode, List.length_cons, List.length_append, List.length_nil]; omega
  | obj fs =>
    have := encFields_putAllF_length fs .nil
    simp only [encFields, List.length_nil] at this
    simp only [putAll, encode, List.length_cons, List.length_append, List.length_nil]; omega
  | _ => simp [putAll]
theorem encFields_putAllF_length (fs acc : Fields) :
    (encFields (putAllF fs acc)).length ≤ (encFields acc).length + (encFields fs).length := by
  cases fs with
  | nil => simp [putAllF, encFields]
  | cons n v r =>
    have h1 := encFields_putAllF_length r (mapPut acc n (putAll v))
    have h2 := encFields_mapPut_length acc n (putAll v)
    have h3 := encode_putAll_length v
    simp only [putAllF, encFields, List.length_append]
    omega
theorem encElems_putAllE_length (xs : Elems) : (encElems (putAllE xs)).length ≤ (encElems xs).length := by
  cases xs with
  | nil => simp [putAllE]
  | cons v r =>
    have h1 := encode_putAll_length v
    have h2 := encElems_putAllE_length r
    simp only [putAllE, encElems, List.length_append]
    omega
end

/-! ### C15: serialize after `put()` calls in any order -/

/-- `fs` lists the `put(name, value)` calls in the order they were made (nested objects
    likewise). Whatever that order, `serialize()` returns the canonical encoding of the map
    content, whose names are strictly ascending; the map content is the spec's `sortKeysF fs`.
    Hypotheses: only the lengths (names, strings, bytes ≤ INT32_MAX) of what was inserted, and
    the size of the output (< 2^64). -/
theorem cppSerialize_putAll (fs : Fields) (hl : lensOkF fs = true)
    (hlen : (encode (.obj (putAllF fs .nil))).length < 2 ^ 64) :
    cppSerialize (putAllF fs .nil) = encode (.obj (putAllF fs .nil)) ∧
    ascF none (putAllF fs .nil) = true ∧
    putAllF fs .nil = sortKeysF fs :=
  ⟨cppSerialize_encode _ (lensOkF_putAllF fs .nil hl rfl) hlen, ascF_putAllF_nil fs,
   putAllF_nil_eq_sortKeysF fs⟩

/-- the same with the size bound on the inserted tree (the canonical tree is not longer) -/
theorem cppSerialize_putAll' (fs : Fields) (hl : lensOkF fs = true)
    (hlen : (encode (.obj fs)).length < 2 ^ 64) :
    cppSerialize (putAllF fs .nil) = encode (sortKeys (.obj fs)) := by
  have h := encode_putAll_length (.obj fs)
  simp only [putAll] at h
  rw [(cppSerialize_putAll fs hl (by omega)).1, ← putAll_eq_sortKeys, putAll]

/-- with int64 integers as well, the serialized tree is `wfValue` (the decoder's domain) -/
theorem cppSerialize_putAll_wf (fs : Fields) (hi : insOkF fs = true)
    (hlen : (encode (.obj fs)).length < 2 ^ 64) :
    wfValue (.obj (putAllF fs .nil)) = true ∧
    cppSerialize (putAllF fs .nil) = encode (.obj (putAllF fs .nil)) := by
  have h := encode_putAll_length (.obj fs)
  simp only [putAll] at h
  have hw := wfValue_putAll (.obj fs) (by simpa [insOk] using hi)
  simp only [putAll] at hw
  exact ⟨hw, (cppSerialize_putAll fs (lensOkF_of_insOk fs hi) (by omega)).1⟩

/-- `binson_parser_verify` from any allocated parser object whose depth allows the document -/
theorem cppSerialize_verifies_gen (g : Parser) (ha : Alloc g) (hmd : g.maxDepth ≤ 255) (fs : Fields)
    (hwf : wfDoc .object g.maxDepth (.obj fs) = true) (hsz : (encode (.obj fs)).length < 2 ^ 63) :
    (init g (cppSerialize fs).toArray 1).2 = true ∧
    (verify (init g (cppSerialize fs).toArray 1).1).2.1 = true := by
  rw [cppSerialize_canonical fs (wfValue_of_wfDoc hwf) (by omega)]
  have h := verify_wellformed g ha hmd .object (.obj fs) hwf hsz
  exact ⟨h.1, h.2.2.1⟩

/-- the depth-10 stack parser of `Binson::deserialize` / `binson_writer_verify` accepts
    `serialize()`'s output when object nesting is at most 10 -/
theorem cppSerialize_verifies (fs : Fields) (hwf : wfDoc .object 10 (.obj fs) = true)
    (hsz : (encode (.obj fs)).length < 2 ^ 63) :
    (init (garbageParser 10) (cppSerialize fs).toArray 1).2 = true ∧
    (verify (init (garbageParser 10) (cppSerialize fs).toArray 1).1).2.1 = true :=
  cppSerialize_verifies_gen (garbageParser 10) ⟨rfl, by decide, rfl, rfl⟩ (by decide) fs hwf hsz

/-- a document built by `put()` calls in any order from admissible values nested at most 10
    deep: the map content is a depth-10 well-formed document ... -/
theorem wfDoc_putAll (d : Nat) (fs : Fields) (hi : insOkF fs = true) (hd : fits d 255 (.obj fs) = true) :
    wfDoc .object d (.obj (putAllF fs .nil)) = true := by
  have hw := wfValue_putAll (.obj fs) (by simpa [insOk] using hi)
  have hf := fits_putAll d 255 (.obj fs) hd
  simp only [putAll] at hw hf
  simp [wfDoc, hw, hf, rootKindOk]

/-- ... and its serialization verifies at depth 10 -/
theorem cppSerialize_putAll_verifies (fs : Fields) (hi : insOkF fs = true)
    (hd : fits 10 255 (.obj fs) = true) (hsz : (encode (.obj fs)).length < 2 ^ 63) :
    (init (garbageParser 10) (cppSerialize (putAllF fs .nil)).toArray 1).2 = true ∧
    (verify (init (garbageParser 10) (cppSerialize (putAllF fs .nil)).toArray 1).1).2.1 = true := by
  have h := encode_putAll_length (.obj fs)
  simp only [putAll] at h
  exact cppSerialize_verifies _ (wfDoc_putAll 10 fs hi hd) (by omega)

/-! ### not vacuous -/

/-- puts in the order b, a, b again: the map is a, b with the last b -/
example :
    let ins : Fields := .cons [0x62] (.int 1) (.cons [0x61] (.bool true) (.cons [0x62] (.int 2) .nil))
    putAllF ins .nil = .cons [0x61] (.bool true) (.cons [0x62] (.int 2) .nil) ∧
    insOkF ins = true ∧ fits 10 255 (.obj ins) = true ∧
    encode (.obj (putAllF ins .nil)) = [0x40, 0x14, 0x01, 0x61, 0x44, 0x14, 0x01, 0x62, 0x10, 0x02, 0x41] := by
  exact ⟨by rfl, by decide, by decide, by decide⟩

end Binson

section
open Binson
#print axioms cppSerialize_canonical
#print axioms cppSerialize_encode
#print axioms cppSerialize_first_try
#print axioms cppSerialize_retry
#print axioms putAll_eq_sortKeys
#print axioms lookup_mapPut
#print axioms ascF_mapPut
#print axioms cppSerialize_putAll
#print axioms cppSerialize_putAll'
#print axioms cppSerialize_putAll_wf
#print axioms cppSerialize_verifies
#print axioms cppSerialize_putAll_verifies
end
