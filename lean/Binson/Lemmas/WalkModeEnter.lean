/-
  Traversal on ARBITRARY bytes: `go_into_array`, when it returns true, has left no error and the
  depth unchanged (whatever is at the cursor); `go_into_object` with a `{` at the cursor, when it
  returns true, has gone exactly one level down.
-/
import Binson.Lemmas.WalkRaw
namespace Binson

/-- `C` (the loop goes on) and `S` (it stops) of `WalkPost` for `go_into_array`; `d0`: the depth at the call -/
def walkEaC (d0 : Nat) (q : Parser) (s : Option Scan) : Prop := s = some .enterArr ∧ q.depth = d0
def walkEaS (d0 : Nat) (q : Parser) : Prop := q.err = .none ∧ q.depth = d0

theorem walk_ea_dispatch (st : LoopSt) (q : Parser) (lv : Level) (tok : Tok) (span : Span) (bc oa od d0 : Nat)
    (hq : Shape q) (he : q.err = .none) (hin : InBuf q lv span) (hd : q.depth = d0) :
    WalkPost (dispatch st q lv q.lvlIdx (some .enterArr) tok span bc none oa od) (walkEaC d0) (walkEaS d0) (fun _ => True) := by
  generalize hr : dispatch st q lv q.lvlIdx (some .enterArr) tok span bc none oa od = r
  have hli := hq.lvlIdx_lt
  cases tok with
  | objBegin =>
    rcases (caseObjBegin_full he hli hq.hcur hq.hlv hr).1 with ⟨h2, _⟩ | ⟨g, _⟩ | ⟨_, h2, _, W⟩
    · exact .ret h2 trivial
    · cases g
    · exact .stop h2 ⟨W.err.trans he, W.depth.trans hd⟩
  | objEnd =>
    rcases (caseObjEnd_full he hli hq.hcur rfl hr).1 with ⟨h2, _⟩ | ⟨_, _, h2, _⟩ | ⟨_, g, _⟩ | ⟨_, g, _⟩
    · exact .ret h2 trivial
    · exact .ret h2 trivial
    · cases g
    · cases g
  | fieldName =>
    rcases (caseFieldName_full he hli hq.hcur hin (s' := some .enterArr) (by split <;> rfl) hr).1 with ⟨h2, _⟩ | ⟨_, _, g, _⟩ | ⟨_, h2, hs, W⟩
    · exact .ret h2 trivial
    · cases g
    · exact .cont h2 ⟨hs, W.depth.trans hd⟩
  | arrBegin =>
    rcases (caseArrBegin_full he hli hq.hcur hr).1 with ⟨h2, _⟩ | ⟨_, _, h2, _, W⟩ | ⟨g, _⟩
    · exact .ret h2 trivial
    · exact .stop h2 ⟨W.err.trans he, W.depth.trans hd⟩
    · cases g
  | arrEnd =>
    rcases (caseArrEnd_full he hli hq.hcur rfl hr).1 with ⟨h2, _⟩ | ⟨_, _, h2, _⟩ | ⟨_, g, _⟩ | ⟨_, g, _⟩
    · exact .ret h2 trivial
    · exact .ret h2 trivial
    · cases g
    · cases g
  | string | boolean | double | integer | bytes | error =>
    rw [dispatch_scalar (by decide)] at hr
    rcases (caseScalar_full he hli hq.hcur hin.1 hr).1 with ⟨h2, _⟩ | ⟨_, _, h2, _, W⟩
    · exact .ret h2 trivial
    · exact .stop h2 ⟨W.err.trans he, W.depth.trans hd⟩

theorem walk_ea_iter (st : LoopSt) (oa od d0 : Nat) (hs : Shape st.p) (he : st.p.err = .none) (hJ : walkEaC d0 st.p st.scan) :
    WalkPost (iter st none oa od) (walkEaC d0) (walkEaS d0) (fun _ => True) := by
  refine walk_iter_post hs he (fun _ _ => trivial) (fun c lv tok hC _ hin => ?_)
  rw [hJ.1] at hin ⊢
  rw [walk_arrBlock_scan_ne _ _ _ _ (by decide)]
  exact walk_ea_dispatch _ _ _ _ _ _ _ _ _ hC.shape hC.err hin (hC.depth.trans hJ.2)

theorem walk_goIntoArray_true (p : Parser) (hs : Shape p) (h : (goIntoArray p).2 = true) :
    p.err = .none ∧ (goIntoArray p).1.err = .none ∧ (goIntoArray p).1.depth = p.depth := by
  unfold goIntoArray at h ⊢
  simp only at h ⊢
  by_cases he : p.err = .none
  · rcases walk_mode_adv p hs he .enterArr none (walkEaC p.depth) (walkEaS p.depth) (fun _ => True) ⟨rfl, rfl⟩
      (fun st i1 i2 _ i4 => walk_ea_iter st _ _ _ i1 i2 i4) with ⟨a1, a2⟩ | ⟨hc, _⟩
    · exact ⟨he, a1, a2⟩
    · rw [hc] at h; cases h
  · rw [advance_err p _ _ he] at h; cases h

/-! ### `go_into_object` on a pending `{` -/

theorem walk_eo_dispatch {C : Parser → Option Scan → Prop} (st : LoopSt) (q : Parser) (lv : Level) (span : Span) (bc oa od d0 : Nat)
    (hq : Shape q) (he : q.err = .none) (hd : q.depth = d0) :
    WalkPost (dispatch st q lv q.lvlIdx (some .enterObj) .objBegin span bc none oa od) C
      (fun r => r.err = .none ∧ r.depth = d0 + 1) (fun _ => True) := by
  generalize hr : dispatch st q lv q.lvlIdx (some .enterObj) .objBegin span bc none oa od = r
  rcases (caseObjBegin_full he hq.lvlIdx_lt hq.hcur hq.hlv hr).1 with ⟨h2, _⟩ | ⟨_, _, h2, _, e, _, d, _⟩ | ⟨g, _⟩
  · exact .ret h2 trivial
  · exact .stop h2 ⟨e, by rw [d, hd]⟩
  · cases g

theorem walk_goIntoObject_true (p : Parser) (hs : Shape p) (he : p.err = .none) (rs : Bytes) (hrem : p.rem = 0x40 :: rs)
    (h : (goIntoObject p).2 = true) :
    (goIntoObject p).1.err = .none ∧ (goIntoObject p).1.depth = p.depth + 1 := by
  unfold goIntoObject at h ⊢
  simp only at h ⊢
  -- the first pass sees the `{`, and there is no second one
  rcases walk_mode_adv p hs he .enterObj none (fun q s => q = p ∧ s = some .enterObj) (fun r => r.err = .none ∧ r.depth = p.depth + 1)
      (fun _ => True) ⟨rfl, rfl⟩
      (fun st i1 i2 _ i4 => by
        obtain ⟨e1, e2⟩ := i4
        refine walk_iter_post i1 i2 (fun _ _ => trivial) (fun c lv tok hC hob _ => ?_)
        have htok : c.tok = .objBegin := hC.tokObj ⟨rs, by rw [e1]; exact hrem⟩
        have ht : tok = .objBegin := by
          rcases (objBlock_spec hob).2.2.2.2 with h | ⟨h, _⟩
          · rw [h, htok]
          · rw [htok] at h; cases h
        rw [e2, walk_arrBlock_scan_ne _ _ _ _ (by decide), ht]
        exact walk_eo_dispatch _ _ _ _ _ _ _ _ hC.shape hC.err (by rw [hC.depth, e1])) with a | ⟨hc, _⟩
  · exact a
  · rw [hc] at h; cases h

end Binson
