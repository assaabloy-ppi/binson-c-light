/-
  The counted variants the driver runs agree with the API functions in state and return value;
  only the callback count is extra.
-/
import Binson.Model.Counted
namespace Binson

theorem nextC_eq (p : Parser) : ((nextC p).1, (nextC p).2.1) = next p := rfl
theorem goIntoObjectC_eq (p : Parser) : ((goIntoObjectC p).1, (goIntoObjectC p).2.1) = goIntoObject p := rfl
theorem goIntoArrayC_eq (p : Parser) : ((goIntoArrayC p).1, (goIntoArrayC p).2.1) = goIntoArray p := rfl

theorem nextEnsureC_eq (p : Parser) (t : Ty) : ((nextEnsureC p t).1, (nextEnsureC p t).2.1) = nextEnsure p t := by
  unfold nextEnsureC nextEnsure nextC next
  simp only
  split
  · rfl
  · split <;> rfl

theorem leaveObjectC_eq (p : Parser) : ((leaveObjectC p).1, (leaveObjectC p).2.1) = leaveObject p := by
  unfold leaveObjectC leaveObject
  simp only
  split
  · rfl
  · split <;> rfl

theorem leaveArrayC_eq (p : Parser) : ((leaveArrayC p).1, (leaveArrayC p).2.1) = leaveArray p := by
  unfold leaveArrayC leaveArray
  simp only
  split
  · rfl
  · split <;> rfl

theorem fieldLoopC_eq (f : Nat) (p : Parser) (nm : List UInt8) (c : Nat) :
    ((fieldLoopC f p nm c).1, (fieldLoopC f p nm c).2.1) = fieldLoop f p nm := by
  induction f generalizing p c with
  | zero => rfl
  | succ f ih =>
    unfold fieldLoopC fieldLoop
    simp only
    split
    · rfl
    · split
      · rfl
      · split
        · rfl
        · exact ih _ _

theorem fieldC_eq (p : Parser) (nm : List UInt8) : ((fieldC p nm).1, (fieldC p nm).2.1) = field p nm :=
  fieldLoopC_eq _ p nm 0

theorem fieldEnsureC_eq (p : Parser) (nm : List UInt8) (t : Ty) :
    ((fieldEnsureC p nm t).1, (fieldEnsureC p nm t).2.1) = fieldEnsure p nm t := by
  unfold fieldEnsureC fieldEnsure
  have h := fieldC_eq p nm
  generalize fieldC p nm = r at h
  obtain ⟨q, ok, n⟩ := r
  simp only at h
  rw [← h]
  simp only
  split
  · rfl
  · split <;> rfl

theorem getRawC_eq (p : Parser) : ((getRawC p).1, (getRawC p).2.1, (getRawC p).2.2.1) = getRaw p := by
  unfold getRawC getRaw
  by_cases he : p.err ≠ .none
  · rw [if_pos he, if_pos he]
  rw [if_neg he, if_neg he]
  by_cases ho : (p.getLvl p.cur).ctype = .object
  · simp only [if_pos ho]
    generalize advance p .enterObj none = r
    cases r.ret
    · rfl
    · generalize advance r.p .leaveObj none = r2
      cases r2.ret <;> rfl
  by_cases ha : (p.getLvl p.cur).ctype = .array
  · simp only [if_neg ho, if_pos ha]
    generalize advance p .enterArr none = r
    cases r.ret
    · rfl
    · generalize advance r.p .leaveArr none = r2
      cases r2.ret <;> rfl
  · simp only [if_neg ho, if_neg ha]

end Binson
