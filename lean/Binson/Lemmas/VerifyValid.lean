/-
  Layer 3: `binson_parser_verify` accepts the canonical encoding of every well-formed
  document that fits the depth configuration, and its callback log is exactly `viewsOf 0 v`.
-/
import Binson.Lemmas.PassRoot
import Binson.Lemmas.Safe
namespace Binson

mutual
theorem tokens_le : ∀ v, tokens v ≤ (encode v).length
  | .bool _ => Nat.le_refl 1
  | .int _ => Nat.succ_le_succ (Nat.zero_le _)
  | .dbl _ => Nat.succ_le_succ (Nat.zero_le _)
  | .str _ => Nat.succ_le_succ (Nat.zero_le _)
  | .bytes _ => Nat.succ_le_succ (Nat.zero_le _)
  | .arr xs => by have := tokensE_le xs; simp [tokens, encode]; omega
  | .obj fs => by have := tokensF_le fs; simp [tokens, encode]; omega
theorem tokensE_le : ∀ xs, tokensE xs ≤ (encElems xs).length
  | .nil => by simp [tokensE, encElems]
  | .cons v r => by have := tokens_le v; have := tokensE_le r; simp [tokensE, encElems]; omega
theorem tokensF_le : ∀ fs, tokensF fs ≤ (encFields fs).length
  | .nil => by simp [tokensF, encFields]
  | .cons n v r => by have := tokens_le v; have := tokensF_le r; simp [tokensF, encFields, encStr, encInt]; omega
end

theorem toArray_getD_head (a d : UInt8) (m : List UInt8) : (a :: m).toArray.getD 0 d = a := by
  simp [Array.getD_eq_getD_getElem?]

theorem toArray_getD_last (a b d : UInt8) (m : List UInt8) :
    (a :: (m ++ [b])).toArray.getD ((a :: (m ++ [b])).length - 1) d = b := by
  simp [Array.getD_eq_getD_getElem?]

/-- the parser right after an accepted init/reset over `buf` (`t` = 1 object root, 2 array root) -/
structure Fresh (W : Parser) (buf : Array UInt8) (t : Nat) (md : Nat) : Prop where
  shape : Shape W
  err : W.err = .none
  depth : W.depth = t - 1
  used : W.used = 0
  buf : W.buf = buf
  ptype : W.ptype = t
  maxDepth : W.maxDepth = md
  zeros : ∀ i, W.getLvl i = Level.zero

/-- a reset over a buffer with the root's first and last byte is accepted and gives a fresh parser; `Shape`
    of the result comes from `reset_shape` or, for an object that is only allocated, `init_shape` -/
theorem fresh_of_reset {p : Parser} {buf : Array UInt8} {t md : Nat} (hsh : Shape (reset p).1) (hmd : p.maxDepth ≠ 0)
    (hbs : p.buf.size = p.size) (hbuf : p.buf = buf) (hpt : p.ptype = t) (hmdp : p.maxDepth = md) (b0 bl : UInt8)
    (ht : (t = 1 ∧ b0 = 0x40 ∧ bl = 0x41) ∨ (t = 2 ∧ b0 = 0x42 ∧ bl = 0x43))
    (h2 : 2 ≤ buf.size) (hb0 : buf.getD 0 0 = b0) (hbl : buf.getD (buf.size - 1) 0 = bl) :
    (reset p).2 = true ∧ Fresh (reset p).1 buf t md := by
  subst hbuf hpt hmdp
  have hro : resetOut p.size p.ptype p.buf = .ok (p.ptype - 1) := by
    unfold resetOut
    rw [← hbs]
    rcases ht with ⟨e, rfl, rfl⟩ | ⟨e, rfl, rfl⟩ <;> simp [e, hb0, hbl, Nat.not_lt.mpr h2]
  rw [reset_eq p hmd hbs, hro] at hsh ⊢
  exact ⟨rfl, hsh, rfl, rfl, rfl, rfl, rfl, rfl, fun i => getLvl_of_replicate _ p.levels.size rfl i⟩

theorem init_fresh (g : Parser) (ha : Alloc g) (buf : Array UInt8) (t : Nat) (b0 bl : UInt8)
    (ht : (t = 1 ∧ b0 = 0x40 ∧ bl = 0x41) ∨ (t = 2 ∧ b0 = 0x42 ∧ bl = 0x43))
    (h2 : 2 ≤ buf.size) (hsz : buf.size < 2 ^ 63) (hb0 : buf.getD 0 0 = b0) (hbl : buf.getD (buf.size - 1) 0 = bl) :
    (init g buf t).2 = true ∧ Fresh (init g buf t).1 buf t g.maxDepth := by
  have hsh := init_shape g ha buf t (ht.elim (fun h => Or.inl h.1) (fun h => Or.inr h.1)) hsz
  have hmd : g.maxDepth ≠ 0 := Nat.ne_of_gt ha.hmd
  unfold init at hsh ⊢
  rw [if_neg hmd] at hsh ⊢
  exact fresh_of_reset hsh hmd rfl rfl rfl rfl b0 bl ht h2 hb0 hbl

theorem reset_to_fresh {W : Parser} {buf : Array UInt8} {t md : Nat} (hsW : Shape W) (hbuf : W.buf = buf) (hpt : W.ptype = t)
    (hmdW : W.maxDepth = md) (b0 bl : UInt8)
    (ht : (t = 1 ∧ b0 = 0x40 ∧ bl = 0x41) ∨ (t = 2 ∧ b0 = 0x42 ∧ bl = 0x43))
    (h2 : 2 ≤ buf.size) (hb0 : buf.getD 0 0 = b0) (hbl : buf.getD (buf.size - 1) 0 = bl) :
    (reset W).2 = true ∧ Fresh (reset W).1 buf t md :=
  fresh_of_reset (reset_shape W hsW) (Nat.ne_of_gt hsW.hmd) hsW.hbs hbuf hpt hmdW b0 bl ht h2 hb0 hbl

theorem reset_fresh {W : Parser} {buf : Array UInt8} {t md : Nat} (hF : Fresh W buf t md) (b0 bl : UInt8)
    (ht : (t = 1 ∧ b0 = 0x40 ∧ bl = 0x41) ∨ (t = 2 ∧ b0 = 0x42 ∧ bl = 0x43))
    (h2 : 2 ≤ buf.size) (hb0 : buf.getD 0 0 = b0) (hbl : buf.getD (buf.size - 1) 0 = bl) :
    (reset W).2 = true ∧ Fresh (reset W).1 buf t md :=
  reset_to_fresh hF.shape hF.buf hF.ptype hF.maxDepth b0 bl ht h2 hb0 hbl

theorem advance_done {W : Parser} (hsh : Shape W) (he : W.err = .none) (scan : Scan) (sn : Option (List UInt8)) {st' : LoopSt} {b : Bool}
    (h : advLoop (W.size - W.used + 2) ⟨W, some scan, 0, []⟩ sn (W.getLvl W.cur).ad W.depth = (st', .done b)) :
    advance W scan sn = ⟨st'.p, b, st'.ev.reverse, false⟩ := by
  unfold advance
  rw [if_neg (by simp [he])]
  simp only [touchLvl_of_lt hsh.cur_lt]
  rw [h]

/-- outcome of `_advance_parsing(VERIFY)` on a fresh parser over `encode v`: the document is accepted
    with the callbacks `viewsOf 0 v`, or the run has stopped at its first nesting obstacle -/
def VerifyRan (W : Parser) (buf : Array UInt8) (v : Value) : Option Bool → Prop
  | none => (advance W .verify none).ret = false ∧ (advance W .verify none).p.err = .none ∧
      W.Frame (advance W .verify none).p ∧ (advance W .verify none).ev.map (view buf) = viewsOf 0 v
  | some b => (advance W .verify none).ret = false ∧ (advance W .verify none).p.err = obstacleErr b

theorem Fresh.start {W : Parser} {buf : Array UInt8} {t md : Nat} (hF : Fresh W buf t md) (b0 bl : UInt8) (body : Bytes)
    (hbuf : buf.toList = b0 :: (body ++ [bl])) : W.rem = b0 :: (body ++ [bl]) ∧ W.size = body.length + 2 := by
  refine ⟨by unfold Parser.rem; rw [hF.used, hF.buf, List.drop_zero, hbuf], ?_⟩
  rw [← hF.shape.hbs, hF.buf, ← Array.length_toList, hbuf, List.length_cons, List.length_append]
  rfl

/-- the VERIFY run over a fresh parser whose buffer holds `n' + 2` bytes: the first iteration and the
    `n ≤ n'` iterations over what the root contains (`run`), then the iteration of the root's END token,
    which returns (`fin`) -/
theorem verifyRan_of {W : Parser} {buf : Array UInt8} {t md : Nat} (hF : Fresh W buf t md) {v : Value} {d n n' : Nat}
    (hd : W.depth = d) (hsz : W.size = n' + 2) (hn : n ≤ n') {last : Bytes} {P : LoopSt → Prop} {o : Option Bool}
    (run : ∀ f, Ran (1 + f) (n + 1) ⟨W, some .verify, 0, []⟩ none 0 d last P o)
    (fin : ∀ st2, st2.p.rem = last → P st2 → ∃ st3, iter st2 none 0 d = (st3, .ret false) ∧ st3.p.err = .none ∧
      W.Frame st3.p ∧ st3.ev.reverse.map (view buf) = viewsOf 0 v) :
    VerifyRan W buf v o := by
  subst hd
  have hfuel : W.size - W.used + 2 = n + 1 + (1 + (n' - n + 2)) := by rw [hF.used, hsz, Nat.sub_zero]; omega
  have hoa : (W.getLvl W.cur).ad = 0 := by rw [hF.zeros]; rfl
  have h := run (n' - n + 2)
  cases o with
  | some b =>
    obtain ⟨st2, e2, r2⟩ := h
    show (advance W .verify none).ret = false ∧ (advance W .verify none).p.err = obstacleErr b
    rw [advance_done hF.shape hF.err .verify none (by rw [hoa, hfuel]; exact e2)]
    exact ⟨rfl, r2⟩
  | none =>
    obtain ⟨st2, e2, r2, p2⟩ := h
    obtain ⟨st3, i3, e3, fr, hv⟩ := fin st2 r2 p2
    show (advance W .verify none).ret = false ∧ (advance W .verify none).p.err = .none ∧
      W.Frame (advance W .verify none).p ∧ (advance W .verify none).ev.map (view buf) = viewsOf 0 v
    rw [advance_done hF.shape hF.err .verify none (by rw [hoa, hfuel, e2, Nat.add_comm 1]; exact advLoop_ret i3)]
    exact ⟨rfl, e3, fr, hv⟩

theorem advance_obj {W : Parser} {buf : Array UInt8} {md : Nat} (hF : Fresh W buf 1 md) (hmd : md ≤ 255)
    (fs : Fields) (hbuf : buf.toList = encode (.obj fs)) (hwf : wfFields none fs = true) :
    VerifyRan W buf (.obj fs) (firstObstacle md 255 (.obj fs)) := by
  have hsh := hF.shape
  have hd0 : W.depth = 0 := hF.depth
  have hmd1 : ¬ md = 0 := by have := hsh.hmd; rw [hF.maxDepth] at this; exact Nat.ne_of_gt this
  obtain ⟨hrem, hsz⟩ := hF.start 0x40 0x41 (encFields fs) hbuf
  -- root `{`
  obtain ⟨st1, i1, s1⟩ := iter_objBegin_root (sn := none) (oa := 0) (od := 0) (st := ⟨W, some .verify, 0, []⟩) hsh hF.err hd0 hF.zeros
    _ hrem rfl
  have hi1 : st1.p.lvlIdx = 0 := by unfold Parser.lvlIdx; rw [s1.depth]; rfl
  have hD1 : Deep st1 0 0 :=
    Deep.ofStep cont_verify (by show W.maxDepth ≤ 255; rw [hF.maxDepth]; exact hmd) s1 (Nat.le_refl 1) (Or.inl Nat.zero_lt_one)
      (fun i hi => if_neg (Nat.ne_of_gt hi)) (fun h => by rw [show W.ptype = 1 from hF.ptype] at h; cases h)
  have hr1 : st1.p.rem = encFields fs ++ [0x41] := rem_step hsh hrem s1.frame s1.used
  -- fields
  have ih := fun f => run_fields fs (1 + f) st1 none 0 0 [0x41] hD1 hr1
    (by unfold prevName; rw [hi1, s1.lvl]; exact hwf) (by rw [hi1, s1.lvl]; rfl) (by rw [hi1, s1.lvl]; rfl)
  rw [s1.depth, s1.frame.2.2.1, show W.maxDepth = md from hF.maxDepth] at ih
  rw [firstObstacle, if_neg hmd1]
  refine verifyRan_of hF hd0 hsz (tokensF_le fs) (fun f => Ran.step i1 (ih f)) fun st2 r2 p2 => ?_
  -- root `}`
  have hD2 : Deep st2 0 0 := hD1.after p2.base p2.ad
  have hi2 : st2.p.lvlIdx = st1.p.lvlIdx := by unfold Parser.lvlIdx; rw [p2.base.depth]
  obtain ⟨st3, i3, _, s3, _⟩ := iter_objEnd_root (sn := none) (oa := 0) (od := 0) hD2.shape hD2.err [] r2 (by rw [hi2]; exact p2.flags)
    (by rw [p2.base.depth, s1.depth]) hD2.cont.has_objEnd (fun h => by rw [p2.base.depth, s1.depth] at h; cases h)
  refine ⟨st3, i3, s3.err, (s1.frame.trans p2.base.moved.frame).trans s3.frame, ?_⟩
  -- the log
  obtain ⟨new, en, wn⟩ := p2.base.moved.ev
  rw [s3.ev, en, s1.ev]
  have hb1 : st1.p.buf = buf := by rw [s1.frame.2.1]; exact hF.buf
  rw [hb1] at wn
  simp only [List.reverse_cons, List.reverse_append, List.reverse_nil, List.nil_append, List.map_append, List.map_cons, List.map_nil,
    List.append_assoc, wn]
  simp [viewsOf, view, Level.zero]

theorem advance_arr {W : Parser} {buf : Array UInt8} {md : Nat} (hF : Fresh W buf 2 md) (hmd : md ≤ 255)
    (xs : Elems) (hbuf : buf.toList = encode (.arr xs)) (hwf : wfElems xs = true) :
    VerifyRan W buf (.arr xs) (firstObstacle (md - 1) 255 (.arr xs)) := by
  have hsh := hF.shape
  have hd1 : W.depth = 1 := hF.depth
  obtain ⟨hrem, hsz⟩ := hF.start 0x42 0x43 (encElems xs) hbuf
  -- root `[`
  obtain ⟨st1, i1, r1, s1⟩ := iter_arrBegin_root (sn := none) (oa := 0) (od := 1) (st := ⟨W, some .verify, 0, []⟩) hsh hF.err hd1 hF.zeros
    _ hrem rfl
  have hi1 : st1.p.lvlIdx = 0 := by unfold Parser.lvlIdx; rw [s1.depth]; rfl
  have hl1 : st1.p.getLvl st1.p.lvlIdx = arrInnerLevel Level.zero := by rw [hi1, s1.lvl, if_pos rfl]
  have hD1 : Deep st1 0 1 :=
    Deep.ofStep cont_verify (by show W.maxDepth ≤ 255; rw [hF.maxDepth]; exact hmd) s1 (Nat.le_refl 1) (Or.inr ⟨rfl, by decide⟩)
      (fun i hi => if_neg (Nat.ne_of_gt hi)) (fun _ _ => by decide)
  -- elements
  have ih := fun f => run_elems xs (1 + f) st1 none 0 1 [0x43] hD1 r1 hwf (by rw [hl1]; exact ⟨Or.inl rfl, by decide⟩)
  rw [s1.depth, s1.frame.2.2.1, show W.maxDepth = md from hF.maxDepth, hl1, show (arrInnerLevel Level.zero).ad = 1 from rfl] at ih
  rw [firstObstacle, if_neg (by decide)]
  refine verifyRan_of hF hd1 hsz (tokensE_le xs) (fun f => Ran.step i1 (ih f)) fun st2 r2 p2 => ?_
  -- root `]`
  have hD2 : Deep st2 0 1 := hD1.after p2.base p2.ad
  have hi2 : st2.p.lvlIdx = st1.p.lvlIdx := by unfold Parser.lvlIdx; rw [p2.base.depth]
  obtain ⟨st3, i3, _, s3, _⟩ := iter_arrEnd_root (sn := none) (oa := 0) (od := 1) hD2.shape hD2.err [] r2
    (by rw [hi2]; exact p2.flags) (by rw [hi2, p2.ad, hl1]; rfl)
    (by rw [p2.base.moved.frame.2.2.2.1, s1.frame.2.2.2.1]; exact hF.ptype) (by rw [p2.base.depth, s1.depth])
    (by rw [if_neg hD2.notOrig]; exact hD2.cont.has_arrEnd)
  refine ⟨st3, i3, s3.err, (s1.frame.trans p2.base.moved.frame).trans s3.frame, ?_⟩
  -- the log
  obtain ⟨new, en, wn⟩ := p2.base.moved.ev
  rw [s3.ev, en, s1.ev]
  have hb1 : st1.p.buf = buf := by rw [s1.frame.2.1]; exact hF.buf
  have hL2 : st2.p.getLvl st2.p.lvlIdx = st2.p.getLvl 0 := by rw [hi2, hi1]
  have ha2 : (st2.p.getLvl 0).ad = 1 := by rw [← hL2, hi2, p2.ad, hl1]; rfl
  rw [hb1, hl1] at wn
  simp only [List.reverse_cons, List.reverse_append, List.reverse_nil, List.nil_append, List.map_append, List.map_cons, List.map_nil,
    List.append_assoc, wn, hL2]
  simp [viewsOf, view, arrInnerLevel, Level.zero]

/-- `BINSON_PTYPE_OBJECT` / `BINSON_PTYPE_ARRAY` -/
def rootNum : Root → Nat | .object => 1 | .array => 2

/-- the state entries left for what the root contains: an array root occupies one itself -/
def rootRoom : Root → Nat → Nat
  | .object, md => md
  | .array, md => md - 1

theorem advance_doc {W : Parser} {buf : Array UInt8} {md : Nat} (root : Root) (hF : Fresh W buf (rootNum root) md) (hmd : md ≤ 255)
    (v : Value) (hbuf : buf.toList = encode v) (hwfv : wfValue v = true) (hrk : rootKindOk root v = true) :
    VerifyRan W buf v (firstObstacle (rootRoom root md) 255 v) := by
  cases root with
  | object =>
    cases v with
    | obj fs => exact advance_obj hF hmd fs hbuf (by simpa [wfValue] using hwfv)
    | _ => simp [rootKindOk] at hrk
  | array =>
    cases v with
    | arr xs => exact advance_arr hF hmd xs hbuf (by simpa [wfValue] using hwfv)
    | _ => simp [rootKindOk] at hrk

theorem encode_ends (root : Root) (v : Value) (hrk : rootKindOk root v = true) :
    ∃ (b0 bl : UInt8) (m : Bytes), encode v = b0 :: (m ++ [bl]) ∧
      ((rootNum root = 1 ∧ b0 = 0x40 ∧ bl = 0x41) ∨ (rootNum root = 2 ∧ b0 = 0x42 ∧ bl = 0x43)) := by
  cases root with
  | object =>
    cases v with
    | obj fs => exact ⟨0x40, 0x41, encFields fs, by simp [encode], Or.inl ⟨rfl, rfl, rfl⟩⟩
    | _ => simp [rootKindOk] at hrk
  | array =>
    cases v with
    | arr xs => exact ⟨0x42, 0x43, encElems xs, by simp [encode], Or.inr ⟨rfl, rfl, rfl⟩⟩
    | _ => simp [rootKindOk] at hrk

theorem buf_ends {buf : Array UInt8} {b0 bl : UInt8} {m : Bytes} (hbuf : buf.toList = b0 :: (m ++ [bl])) :
    2 ≤ buf.size ∧ buf.getD 0 0 = b0 ∧ buf.getD (buf.size - 1) 0 = bl := by
  have hbe : buf = (b0 :: (m ++ [bl])).toArray := by rw [← hbuf]
  subst hbe
  exact ⟨by simp, toArray_getD_head _ _ _, by rw [List.size_toArray]; exact toArray_getD_last _ _ _ _⟩

/-- `verify` on a fresh parser, from the outcome of its `_advance_parsing(VERIFY)`: accepted with the callbacks of
    `v`, and the parser left fresh again; or false, the obstacle's error code staying -/
theorem verify_of_ran {W : Parser} {buf : Array UInt8} {t md : Nat} (hF : Fresh W buf t md) (b0 bl : UInt8)
    (ht : (t = 1 ∧ b0 = 0x40 ∧ bl = 0x41) ∨ (t = 2 ∧ b0 = 0x42 ∧ bl = 0x43))
    (h2 : 2 ≤ buf.size) (hb0 : buf.getD 0 0 = b0) (hbl : buf.getD (buf.size - 1) 0 = bl) (v : Value) (o : Option Bool)
    (hadv : ∀ W', Fresh W' buf t md → VerifyRan W' buf v o) :
    (o = none → (verify W).2.1 = true ∧ (verify W).2.2.map (view buf) = viewsOf 0 v ∧ Fresh (verify W).1 buf t md) ∧
    (∀ b, o = some b → (verify W).2.1 = false ∧ (verify W).1.err = obstacleErr b) := by
  obtain ⟨r1, F1⟩ := reset_fresh hF b0 bl ht h2 hb0 hbl
  have a := hadv _ F1
  have hsA := (advance_spec (reset W).1 .verify none F1.shape).shape
  unfold verify
  generalize reset W = rw at r1 F1 a hsA
  obtain ⟨q, ok⟩ := rw
  simp only at r1 F1 a hsA ⊢
  subst r1
  refine ⟨fun ho => ?_, fun b ho => ?_⟩ <;> subst ho
  · obtain ⟨a1, a2, a3, a4⟩ := a
    obtain ⟨r2, F2⟩ := reset_to_fresh hsA (a3.2.1.trans F1.buf) (a3.2.2.2.1.trans F1.ptype) (a3.2.2.1.trans F1.maxDepth)
      b0 bl ht h2 hb0 hbl
    simp only [Bool.not_true, Bool.false_eq_true, if_false, a1, a2, decide_true, Bool.and_self, if_true]
    exact ⟨trivial, a4, F2⟩
  · have hne : ¬ (advance q .verify none).p.err = .none := by rw [a.2]; exact obstacleErr_ne b
    simp only [Bool.not_true, Bool.false_eq_true, if_false, hne, decide_false, Bool.and_false]
    exact ⟨trivial, a.2⟩

theorem verify_fresh {W : Parser} {buf : Array UInt8} {md : Nat} (root : Root) (hF : Fresh W buf (rootNum root) md) (hmd : md ≤ 255)
    (v : Value) (hbuf : buf.toList = encode v) (hwf : wfDoc root md v = true) :
    (verify W).2.1 = true ∧ (verify W).2.2.map (view buf) = viewsOf 0 v ∧ Fresh (verify W).1 buf (rootNum root) md := by
  unfold wfDoc at hwf
  simp only [Bool.and_eq_true] at hwf
  obtain ⟨⟨hw1, hrk⟩, hfit⟩ := hwf
  have hno : firstObstacle (rootRoom root md) 255 v = none := by
    cases root <;> exact (firstObstacle_none_iff_fits _ _ _).mpr hfit
  obtain ⟨b0, bl, m, he, ht⟩ := encode_ends root v hrk
  obtain ⟨h2, hb0, hbl⟩ := buf_ends (hbuf.trans he)
  exact (verify_of_ran hF b0 bl ht h2 hb0 hbl v _ (fun W' hF' => advance_doc root hF' hmd v hbuf hw1 hrk)).1 hno

theorem verify_fresh_stuck {W : Parser} {buf : Array UInt8} {md : Nat} (root : Root) (hF : Fresh W buf (rootNum root) md) (hmd : md ≤ 255)
    (v : Value) (hbuf : buf.toList = encode v) (hwfv : wfValue v = true) (hrk : rootKindOk root v = true) (b : Bool)
    (hob : firstObstacle (rootRoom root md) 255 v = some b) :
    (verify W).2.1 = false ∧ (verify W).1.err = obstacleErr b := by
  obtain ⟨b0, bl, m, he, ht⟩ := encode_ends root v hrk
  obtain ⟨h2, hb0, hbl⟩ := buf_ends (hbuf.trans he)
  exact (verify_of_ran hF b0 bl ht h2 hb0 hbl v _ (fun W' hF' => advance_doc root hF' hmd v hbuf hwfv hrk)).2 b hob

theorem init_fresh_encode (g : Parser) (ha : Alloc g) (root : Root) (v : Value) (hrk : rootKindOk root v = true)
    (hsz : (encode v).length < 2 ^ 63) :
    (init g (encode v).toArray (rootNum root)).2 = true ∧
    Fresh (init g (encode v).toArray (rootNum root)).1 (encode v).toArray (rootNum root) g.maxDepth := by
  obtain ⟨b0, bl, m, he, ht⟩ := encode_ends root v hrk
  obtain ⟨h2, hb0, hbl⟩ := buf_ends (buf := (encode v).toArray) he
  exact init_fresh g ha _ _ b0 bl ht h2 (by rw [List.size_toArray]; exact hsz) hb0 hbl

/-- init + verify on the encoding of a well-formed document, from ANY allocated parser object -/
theorem verify_wellformed (g : Parser) (ha : Alloc g) (hmd : g.maxDepth ≤ 255) (root : Root) (v : Value)
    (hwf : wfDoc root g.maxDepth v = true) (hsz : (encode v).length < 2 ^ 63) :
    (init g (encode v).toArray (rootNum root)).2 = true ∧
    Fresh (init g (encode v).toArray (rootNum root)).1 (encode v).toArray (rootNum root) g.maxDepth ∧
    (verify (init g (encode v).toArray (rootNum root)).1).2.1 = true ∧
    (verify (init g (encode v).toArray (rootNum root)).1).2.2.map (view (encode v).toArray) = viewsOf 0 v := by
  have hrk : rootKindOk root v = true := by
    unfold wfDoc at hwf
    simp only [Bool.and_eq_true] at hwf
    exact hwf.1.2
  have hi := init_fresh_encode g ha root v hrk hsz
  have hv := verify_fresh root hi.2 hmd v (by simp) hwf
  exact ⟨hi.1, hi.2, hv.1, hv.2.1⟩

end Binson
