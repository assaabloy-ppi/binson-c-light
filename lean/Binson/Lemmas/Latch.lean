/-
  Layer 1: the parser's error latch (C09) and history-freedom of init/reset/verify (C12).
-/
import Binson.Lemmas.Safe
namespace Binson

def Op.Resetting : Op → Bool
  | .init _ _ | .reset | .verify => true
  | _ => false

/-- what each call answers while an error is pending (everything but `get_depth` is a constant) -/
def neutralRet (p : Parser) : Op → Ret
  | .getDepth => .nat p.depth
  | .getType => .ty .none
  | .getName | .getStringBbuf | .getBytesBbuf => .span none
  | .getInteger => .int 0
  | .getDouble => .nat 0
  | .getRaw => .raw false ⟨0, 0⟩
  | _ => .bool false

theorem fieldLoop_err (f : Nat) (p : Parser) (nm : List UInt8) (he : p.err ≠ .none) : fieldLoop (f + 1) p nm = (p, false) := by
  unfold fieldLoop
  rw [advance_err p _ _ he]
  simp

/-- with an error pending, a call that is not init/reset/verify changes nothing at all and answers neutrally -/
theorem pstep_latched (p : Parser) (h : Shape p) (he : p.err ≠ .none) (op : Op) (hr : op.Resetting = false) :
    step p op = (p, neutralRet p op) := by
  cases op with
  | init _ _ | reset | verify => cases hr
  -- the advancing calls begin with `_advance_parsing`, which returns at once
  | next | goIntoObject | goIntoArray | nextEnsure _ =>
    simp [step, next, goIntoObject, goIntoArray, nextEnsure, advance_err p _ _ he, neutralRet]
  | field nm | fieldEnsure nm _ => simp [step, field, fieldEnsure, fieldLoop_err _ p nm he, neutralRet]
  | leaveObject | leaveArray =>
    simp only [step, leaveObject, leaveArray, touchLvl_of_lt h.lvlIdx_lt, advance_err p _ _ he, neutralRet]
    split <;> simp [he]
  | getDepth => rfl
  -- the getters test the error flag first
  | getType | getName | getStringBbuf | getBytesBbuf | getInteger | getBoolean | getDouble | stringEquals _ | getRaw =>
    simp [step, getType, getName, getStringBbuf, getBytesBbuf, getInteger, getBoolean, getDouble, stringEquals, getRaw, he, neutralRet]

theorem prun_latched (ops : List Op) (p : Parser) (h : Shape p) (he : p.err ≠ .none) (hr : ∀ op ∈ ops, op.Resetting = false) :
    run p ops = p :=
  run_ind (P := fun q => q = p) ops p (fun q op ho hq => by rw [hq, pstep_latched p h he op (hr op ho)]) rfl

/-- everything a public function can read: all scalar fields, and the state entries while no error is pending -/
structure ObsEq (p q : Parser) : Prop where
  ptype : p.ptype = q.ptype
  depth : p.depth = q.depth
  maxDepth : p.maxDepth = q.maxDepth
  size : p.size = q.size
  used : p.used = q.used
  buf : p.buf = q.buf
  err : p.err = q.err
  cur : p.cur = q.cur
  fault : p.fault = q.fault
  oof : p.oof = q.oof
  lsize : p.levels.size = q.levels.size
  levels : p.err = .none → p.levels = q.levels

theorem ObsEq.refl (p : Parser) : ObsEq p p := ⟨rfl, rfl, rfl, rfl, rfl, rfl, rfl, rfl, rfl, rfl, rfl, fun _ => rfl⟩

theorem ObsEq.eq_of_noerr {p q : Parser} (e : ObsEq p q) (he : p.err = .none) : p = q := by
  obtain ⟨a1, a2, a3, a4, a5, a6, a7, a8, a9, a11, _, a13⟩ := e
  have := a13 he
  cases p; cases q; simp_all

/-- `reset` reads `maxDepth`, `size`, `ptype` and `buf` only, and a typed parser's error and state
    entries are overwritten: objects that agree on what is read (and on the ghost flags) answer alike
    and end up observationally equal -/
theorem reset_congr (p q : Parser) (hmd : p.maxDepth ≠ 0) (hbs : p.buf.size = p.size) (fr : p.Frame q)
    (hf : p.fault = q.fault) (ho : p.oof = q.oof)
    (ht : (p.ptype = 1 ∨ p.ptype = 2) ∨ (p.err = q.err ∧ (p.err = .none → p.levels = q.levels))) :
    (reset p).2 = (reset q).2 ∧ ObsEq (reset p).1 (reset q).1 := by
  obtain ⟨f1, f2, f3, f4, f5⟩ := fr
  rw [reset_eq p hmd hbs, reset_eq q (f3 ▸ hmd) (by rw [f2, f1]; exact hbs), f1, f2, f4]
  cases hro : resetOut p.size p.ptype p.buf with
  | range | format => exact ⟨rfl, f4.symm, rfl, f3.symm, f1.symm, rfl, f2.symm, rfl, rfl, hf, ho, f5.symm, fun h => by cases h⟩
  | untyped =>
    rcases ht with ht | ⟨he, hl⟩
    · exact absurd ht (by have := resetOut_untyped hro; omega)
    · exact ⟨rfl, f4.symm, rfl, f3.symm, f1.symm, rfl, f2.symm, he, rfl, hf, ho, f5.symm, hl⟩
  | ok d =>
    refine ⟨rfl, f4.symm, rfl, f3.symm, f1.symm, rfl, f2.symm, rfl, rfl, ?_, ho, ?_, fun _ => ?_⟩
    · show (p.fault || decide (p.levels.size < p.maxDepth)) = (q.fault || decide (q.levels.size < q.maxDepth))
      rw [hf, f5, f3]
    · show (Array.replicate _ _).size = (Array.replicate _ _).size
      rw [Array.size_replicate, Array.size_replicate, f5]
    · show Array.replicate _ _ = Array.replicate _ _
      rw [f5]

theorem ObsEq.frame {p q : Parser} (e : ObsEq p q) : p.Frame q :=
  ⟨e.size.symm, e.buf.symm, e.maxDepth.symm, e.ptype.symm, e.lsize.symm⟩

/-- C12: init on two arbitrary allocated objects of the same depth configuration: same answer,
    observationally equal objects -/
theorem init_free (g g' : Parser) (ha : Alloc g) (ha' : Alloc g') (hm : g.maxDepth = g'.maxDepth)
    (buf : Array UInt8) (t : Nat) (ht : t = 1 ∨ t = 2) :
    (init g buf t).2 = (init g' buf t).2 ∧ ObsEq (init g buf t).1 (init g' buf t).1 := by
  have h1 : g.maxDepth ≠ 0 := by have := ha.hmd; omega
  have h2 : g'.maxDepth ≠ 0 := by have := ha'.hmd; omega
  unfold init
  rw [if_neg h1, if_neg h2]
  exact reset_congr _ _ h1 rfl ⟨rfl, rfl, hm.symm, rfl, by rw [ha.hlv, ha'.hlv, hm]⟩
    (ha.hnf.trans ha'.hnf.symm) (ha.hno.trans ha'.hno.symm) (Or.inl ht)

/-- `verify` is `reset` and then a function of the object `reset` leaves -/
theorem verify_congr (p q : Parser) (hp : Shape p)
    (hr : (reset p).2 = (reset q).2 ∧ ObsEq (reset p).1 (reset q).1) :
    (verify p).2.1 = (verify q).2.1 ∧ ObsEq (verify p).1 (verify q).1 := by
  have hok := reset_ok_err p (by have := hp.hmd; omega) hp.hbs
  unfold verify
  generalize reset p = r1 at hr hok
  generalize reset q = r2 at hr
  obtain ⟨p1, ok1⟩ := r1
  obtain ⟨q1, ok2⟩ := r2
  obtain ⟨rfl, e2⟩ := hr
  cases ok1
  · exact ⟨rfl, e2⟩
  · obtain rfl : p1 = q1 := e2.eq_of_noerr (hok rfl)
    exact ⟨rfl, ObsEq.refl _⟩

theorem reset_frame_obsEq (p q : Parser) (hp : Shape p) (hq : Shape q) (fr : p.Frame q) (ht : p.ptype = 1 ∨ p.ptype = 2) :
    (reset p).2 = (reset q).2 ∧ ObsEq (reset p).1 (reset q).1 :=
  reset_congr p q (by have := hp.hmd; omega) hp.hbs fr (hp.hnf.trans hq.hnf.symm) (hp.hno.trans hq.hno.symm) (Or.inl ht)

theorem step_obsEq (p q : Parser) (hp : Shape p) (hq : Shape q) (e : ObsEq p q) (op : Op) (hv : op.Valid) :
    (step p op).2 = (step q op).2 ∧ ObsEq (step p op).1 (step q op).1 := by
  by_cases he : p.err = .none
  · obtain rfl := e.eq_of_noerr he
    exact ⟨rfl, ObsEq.refl _⟩
  · have heq : q.err ≠ .none := by rw [← e.err]; exact he
    have hmd : p.maxDepth ≠ 0 := by have := hp.hmd; omega
    have hro := reset_congr p q hmd hp.hbs e.frame e.fault e.oof (Or.inr ⟨e.err, e.levels⟩)
    cases hr : op.Resetting
    · rw [pstep_latched p hp he op hr, pstep_latched q hq heq op hr]
      refine ⟨?_, e⟩
      cases op <;> simp [neutralRet, e.depth]
    · cases op with
      | init buf t =>
        have := init_free p q hp.alloc hq.alloc e.maxDepth buf t hv.1
        exact ⟨by simp only [step]; rw [this.1], this.2⟩
      | reset => exact ⟨by simp only [step]; rw [hro.1], hro.2⟩
      | verify =>
        have := verify_congr p q hp hro
        exact ⟨by simp only [step]; rw [this.1], this.2⟩
      | _ => cases hr

theorem verify_frame (p : Parser) (h : Shape p) : p.Frame (verify p).1 := by
  have hmd : ∀ {q : Parser}, Shape q → q.maxDepth ≠ 0 := fun hq => by have := hq.hmd; omega
  unfold verify
  have hr := reset_shape p h
  have fr := reset_frame p (hmd h) h.hbs
  generalize reset p = r at hr fr
  obtain ⟨q, ok⟩ := r
  cases ok
  · exact fr
  · simp only [Bool.not_true, Bool.false_eq_true, if_false]
    have ha := advance_spec q .verify none hr
    split
    · exact (fr.trans ha.frame).trans (reset_frame _ (hmd ha.shape) ha.shape.hbs)
    · exact fr.trans ha.frame

/-- verify's verdict depends only on buffer and configuration, not on the object's history -/
theorem verify_frame_eq (p q : Parser) (hp : Shape p) (hq : Shape q) (fr : p.Frame q) (ht : p.ptype = 1 ∨ p.ptype = 2) :
    (verify p).2.1 = (verify q).2.1 ∧ ObsEq (verify p).1 (verify q).1 :=
  verify_congr p q hp (reset_frame_obsEq p q hp hq fr ht)

def trace (p : Parser) : List Op → List Ret
  | [] => []
  | op :: r => (step p op).2 :: trace (step p op).1 r

theorem trace_obsEq (ops : List Op) (p q : Parser) (hp : Shape p) (hq : Shape q) (e : ObsEq p q) (hv : ∀ op ∈ ops, op.Valid) :
    trace p ops = trace q ops := by
  induction ops generalizing p q with
  | nil => rfl
  | cons op r ih =>
    have hop := hv op List.mem_cons_self
    have s := step_obsEq p q hp hq e op hop
    simp only [trace]
    rw [s.1]
    congr 1
    exact ih _ _ (step_shape p op hp hop) (step_shape q op hq hop) s.2 (fun o ho => hv o (List.mem_cons_of_mem _ ho))

end Binson
