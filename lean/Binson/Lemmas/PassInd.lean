/-
  Layer 3: the pass-through lemma proper. `Ran` describes the loop over an encoded value
  below the originating level: it consumes the value and logs its callbacks, or - when the value
  holds a nesting obstacle - stops at the first one in byte order with its error code. One lemma per
  constructor of Value / Elems / Fields, from the runs over the parts; a mutual structural
  recursion ties them together.
-/
import Binson.Lemmas.Pass
import Binson.Spec.Decode
namespace Binson

/-- elements of an array: the level is inside the array (`ad ≥ 1`) before and after -/
structure PassedE (st st' : LoopSt) (xs : Elems) : Prop where
  base : Passed st st' (encElems xs).length (viewsOfE (st.p.getLvl st.p.lvlIdx).ad xs)
  ad : (st'.p.getLvl st.p.lvlIdx).ad = (st.p.getLvl st.p.lvlIdx).ad
  name : (st'.p.getLvl st.p.lvlIdx).name = (st.p.getLvl st.p.lvlIdx).name
  flags : (st'.p.getLvl st.p.lvlIdx).flags = .arr1 ∨ (st'.p.getLvl st.p.lvlIdx).flags = .arr2

/-- fields of an object: the level expects a field name before and after -/
structure PassedF (st st' : LoopSt) (fs : Fields) : Prop where
  base : Passed st st' (encFields fs).length (viewsOfF fs)
  ad : (st'.p.getLvl st.p.lvlIdx).ad = (st.p.getLvl st.p.lvlIdx).ad
  flags : (st'.p.getLvl st.p.lvlIdx).flags = .expField

def obstacleErr (b : Bool) : Err := if b then Err.maxDepthObject else Err.maxDepthArray

theorem obstacleErr_ne (b : Bool) : obstacleErr b ≠ .none := by cases b <;> simp [obstacleErr]

mutual
theorem firstObstacle_none_iff_fits : ∀ (d a : Nat) (v : Value), firstObstacle d a v = none ↔ fits d a v = true
  | _, _, .bool _ => ⟨fun _ => rfl, fun _ => rfl⟩
  | _, _, .int _ => ⟨fun _ => rfl, fun _ => rfl⟩
  | _, _, .dbl _ => ⟨fun _ => rfl, fun _ => rfl⟩
  | _, _, .str _ => ⟨fun _ => rfl, fun _ => rfl⟩
  | _, _, .bytes _ => ⟨fun _ => rfl, fun _ => rfl⟩
  | d, a, .arr xs => by
    have ih := firstObstacleE_none_iff_fitsE d (a - 1) xs
    unfold firstObstacle fits
    by_cases h : a = 0
    · simp [h]
    · have : 1 ≤ a := by omega
      simp [h, this, ih]
  | d, _, .obj fs => by
    have ih := firstObstacleF_none_iff_fitsF (d - 1) fs
    unfold firstObstacle fits
    by_cases h : d = 0
    · simp [h]
    · have : 1 ≤ d := by omega
      simp [h, this, ih]
theorem firstObstacleE_none_iff_fitsE : ∀ (d a : Nat) (xs : Elems), firstObstacleE d a xs = none ↔ fitsE d a xs = true
  | _, _, .nil => by simp [firstObstacleE, fitsE]
  | d, a, .cons v r => by
    have ih1 := firstObstacle_none_iff_fits d a v
    have ih2 := firstObstacleE_none_iff_fitsE d a r
    unfold firstObstacleE fitsE
    cases h : firstObstacle d a v with
    | none =>
      have := ih1.mp h
      simp [this, ih2]
    | some o =>
      have : ¬ fits d a v = true := fun hf => by rw [ih1.mpr hf] at h; cases h
      simp [this]
theorem firstObstacleF_none_iff_fitsF : ∀ (d : Nat) (fs : Fields), firstObstacleF d fs = none ↔ fitsF d fs = true
  | _, .nil => by simp [firstObstacleF, fitsF]
  | d, .cons _ v r => by
    have ih1 := firstObstacle_none_iff_fits d 255 v
    have ih2 := firstObstacleF_none_iff_fitsF d r
    unfold firstObstacleF fitsF
    cases h : firstObstacle d 255 v with
    | none =>
      have := ih1.mp h
      simp [this, ih2]
    | some o =>
      have : ¬ fits d 255 v = true := fun hf => by rw [ih1.mpr hf] at h; cases h
      simp [this]
end

theorem fits_or_firstObstacle (d a : Nat) (v : Value) : fits d a v = true ∨ ∃ b, firstObstacle d a v = some b := by
  cases h : firstObstacle d a v with
  | none => exact Or.inl ((firstObstacle_none_iff_fits d a v).mp h)
  | some b => exact Or.inr ⟨b, rfl⟩

/-- `{` in value position with no state entry left: BINSON_ERROR_MAX_DEPTH_OBJECT, the call returns false -/
theorem iter_objBegin_full {st : LoopSt} {sn : Option (List UInt8)} {oa od : Nat} (hD : Deep st oa od)
    (rest : Bytes) (hrem : st.p.rem = 0x40 :: rest)
    (hctx : ValCtx (st.p.getLvl st.p.lvlIdx)) (hdm : st.p.maxDepth ≤ st.p.depth) :
    ∃ st', iter st sn oa od = (st', .ret false) ∧ st'.p.err = .maxDepthObject := by
  obtain ⟨hob, hab⟩ := blocks_value hD hctx (tok := .objBegin) rfl .object
  exact iter_objBegin_limit hD.shape hD.err rest hrem _ _ st.scan hob hab hD.cont.has_objBegin (fun h => Nat.not_lt.mpr hdm h.2)

/-- `[` in value position with 255 arrays already open in this level: BINSON_ERROR_MAX_DEPTH_ARRAY -/
theorem iter_arrBegin_full {st : LoopSt} {sn : Option (List UInt8)} {oa od : Nat} (hD : Deep st oa od)
    (rest : Bytes) (hrem : st.p.rem = 0x42 :: rest)
    (hctx : ValCtx (st.p.getLvl st.p.lvlIdx)) (had : 255 ≤ (st.p.getLvl st.p.lvlIdx).ad) :
    ∃ st', iter st sn oa od = (st', .ret false) ∧ st'.p.err = .maxDepthArray := by
  obtain ⟨hob, hab⟩ := blocks_value hD hctx (tok := .arrBegin) rfl .array
  exact iter_arrBegin_limit hD.shape hD.err rest hrem _ _ st.scan hob hab had

/-- what `n` iterations (and `f` to spare) make of an encoded value: it is passed, `P` describing the
    state after it, or the loop has stopped at the value's first nesting obstacle with its code -/
def Ran (f n : Nat) (st : LoopSt) (sn : Option (List UInt8)) (oa od : Nat) (rest : Bytes) (P : LoopSt → Prop) :
    Option Bool → Prop
  | none => ∃ st', advLoop (n + f) st sn oa od = advLoop f st' sn oa od ∧ st'.p.rem = rest ∧ P st'
  | some b => ∃ st', advLoop (n + f) st sn oa od = (st', .done false) ∧ st'.p.err = obstacleErr b

section
variable {f n n1 n2 : Nat} {st st1 : LoopSt} {sn : Option (List UInt8)} {oa od : Nat} {rest rest1 : Bytes}
  {P P1 P2 : LoopSt → Prop} {o o1 o2 : Option Bool}

theorem Ran.nil (hr : st.p.rem = rest) (hP : P st) : Ran f 0 st sn oa od rest P none :=
  ⟨st, by rw [Nat.zero_add], hr, hP⟩

theorem Ran.stop {b : Bool} (hi : iter st sn oa od = (st1, .ret false)) (he : st1.p.err = obstacleErr b) :
    Ran f (n + 1) st sn oa od rest P (some b) :=
  ⟨st1, by rw [Nat.add_right_comm]; exact advLoop_ret hi, he⟩

theorem Ran.step (hi : iter st sn oa od = (st1, .cont)) (h : Ran f n st1 sn oa od rest P o) :
    Ran f (n + 1) st sn oa od rest P o := by
  have e : advLoop (n + 1 + f) st sn oa od = advLoop (n + f) st1 sn oa od := by
    rw [Nat.add_right_comm]; exact advLoop_cont hi
  cases o with
  | none => obtain ⟨st', e', r⟩ := h; exact ⟨st', e.trans e', r⟩
  | some b => obtain ⟨st', e', r⟩ := h; exact ⟨st', e.trans e', r⟩

/-- two runs in sequence: the obstacle is the first one's, if it has one -/
theorem Ran.seq (h1 : Ran (n2 + f) n1 st sn oa od rest1 P1 o1)
    (h2 : ∀ st1, st1.p.rem = rest1 → P1 st1 → Ran f n2 st1 sn oa od rest P2 o2) :
    Ran f (n1 + n2) st sn oa od rest P2 (o1.orElse fun _ => o2) := by
  cases o1 with
  | some b => obtain ⟨st1, e1, r1⟩ := h1; exact ⟨st1, by rw [Nat.add_assoc]; exact e1, r1⟩
  | none =>
    obtain ⟨st1, e1, r1, p1⟩ := h1
    have e : advLoop (n1 + n2 + f) st sn oa od = advLoop (n2 + f) st1 sn oa od := by rw [Nat.add_assoc]; exact e1
    have h := h2 st1 r1 p1
    show Ran f (n1 + n2) st sn oa od rest P2 o2
    cases o2 with
    | none => obtain ⟨st2, e2, r2⟩ := h; exact ⟨st2, e.trans e2, r2⟩
    | some b => obtain ⟨st2, e2, r2⟩ := h; exact ⟨st2, e.trans e2, r2⟩

theorem Ran.thenStep (h1 : Ran (1 + f) n st sn oa od rest1 P1 o)
    (h2 : ∀ st1, st1.p.rem = rest1 → P1 st1 → ∃ st2, iter st1 sn oa od = (st2, .cont) ∧ st2.p.rem = rest ∧ P2 st2) :
    Ran f (n + 1) st sn oa od rest P2 o := by
  cases o with
  | some b => obtain ⟨st1, e1, r1⟩ := h1; exact ⟨st1, by rw [Nat.add_assoc]; exact e1, r1⟩
  | none =>
    obtain ⟨st1, e1, r1, p1⟩ := h1
    obtain ⟨st2, i2, r2, p2⟩ := h2 st1 r1 p1
    exact ⟨st2, by rw [Nat.add_assoc, e1, Nat.add_comm 1 f]; exact advLoop_cont i2, r2, p2⟩

end

theorem firstObstacleE_cons (d a : Nat) (v : Value) (r : Elems) :
    firstObstacleE d a (.cons v r) = (firstObstacle d a v).orElse fun _ => firstObstacleE d a r := by
  rw [firstObstacleE]; cases firstObstacle d a v <;> rfl

theorem firstObstacleF_cons (d : Nat) (n : Bytes) (v : Value) (r : Fields) :
    firstObstacleF d (.cons n v r) = (firstObstacle d 255 v).orElse fun _ => firstObstacleF d r := by
  rw [firstObstacleF]; cases firstObstacle d 255 v <;> rfl

theorem step_moved {k : Nat} {st st' : LoopSt} {e : Event} {du dep' : Nat} {lv : Nat → Level}
    (r : StepRes st st' .none du st.scan dep' lv (e :: st.ev)) (hl : ∀ i, i < k → lv i = st.p.getLvl i) :
    Moved k st st' du [view st.p.buf e] :=
  ⟨r.shape, r.err, r.used, r.scan, r.frame, fun i hi => (r.lvl i).trans (hl i hi), ⟨[e], r.ev, rfl⟩⟩

theorem afterFlags_arr {l : Level} (h : ValCtx l) :
    afterFlags l true = if l.ad = 0 then .expField else .arr1 := by
  unfold afterFlags
  rcases h with ⟨hf, ha⟩ | ⟨hf, ha⟩
  · simp [hf, ha]
  · have : l.ad ≠ 0 := by omega
    rcases hf with hf | hf <;> simp [hf, this]

/-- the `]` after the elements of an array below the originating level: what `elements ]` did to the
    state `st1` the `[` left -/
theorem arr_closed {st1 st2 : LoopSt} {sn : Option (List UInt8)} {oa od : Nat} {xs : Elems} {rest : Bytes}
    (hD1 : Deep st1 oa od) (p2 : PassedE st1 st2 xs) (r2 : st2.p.rem = 0x43 :: rest)
    (had : 1 ≤ (st1.p.getLvl st1.p.lvlIdx).ad)
    (hnr : ¬ ((st1.p.getLvl st1.p.lvlIdx).ad = 1 ∧ st1.p.ptype = 2 ∧ st1.p.depth = 1)) :
    ∃ st3, iter st2 sn oa od = (st3, .cont) ∧ st3.p.rem = rest ∧
      Passed st1 st3 ((encElems xs).length + 1)
        (viewsOfE (st1.p.getLvl st1.p.lvlIdx).ad xs ++ [⟨.arrEnd, (st1.p.getLvl st1.p.lvlIdx).ad - 1, [], [], .none⟩]) ∧
      (st3.p.getLvl st1.p.lvlIdx).ad = (st1.p.getLvl st1.p.lvlIdx).ad - 1 ∧
      (st3.p.getLvl st1.p.lvlIdx).name = (st1.p.getLvl st1.p.lvlIdx).name ∧
      (st3.p.getLvl st1.p.lvlIdx).flags = if (st1.p.getLvl st1.p.lvlIdx).ad - 1 = 0 then .expField else .arr1 := by
  have hD2 : Deep st2 oa od := hD1.after p2.base p2.ad
  have hi2 : st2.p.lvlIdx = st1.p.lvlIdx := by unfold Parser.lvlIdx; rw [p2.base.depth]
  have hno := hD2.notOrig
  obtain ⟨st3, i3, r3, s3⟩ := iter_arrEnd_step (sn := sn) (oa := oa) (od := od) hD2.shape hD2.err rest r2 (by rw [hi2]; exact p2.flags)
    (by rw [hi2, p2.ad]; exact had) (by rw [hi2, p2.ad, p2.base.moved.frame.2.2.2.1, p2.base.depth]; exact hnr)
    (by rw [if_neg hno]; exact hD2.cont.has_arrEnd)
  rw [if_neg hno, hD2.cont.proceed_eq] at i3
  rw [if_neg hno, hi2] at s3
  have hL3 : st3.p.getLvl st1.p.lvlIdx = arrEndLevel (st2.p.getLvl st1.p.lvlIdx) := by rw [s3.lvl, if_pos rfl]
  have hm3 : Moved st1.p.lvlIdx st2 st3 1 [⟨.arrEnd, (st1.p.getLvl st1.p.lvlIdx).ad - 1, [], [], .none⟩] := by
    rw [← p2.ad]; exact step_moved s3 (fun i hi => if_neg (Nat.ne_of_lt hi))
  refine ⟨st3, i3, r3, ⟨p2.base.moved.trans hm3, by rw [s3.depth, p2.base.depth], fun i hi => ?_⟩, ?_, ?_, ?_⟩
  · rw [s3.lvl, if_neg (Nat.ne_of_gt (Nat.lt_of_lt_of_le (Parser.lvlIdx_lt hD1.d1) hi))]; exact p2.base.zeros i hi
  · rw [hL3, ← p2.ad]; rfl
  · rw [hL3, ← p2.name]; rfl
  · rw [hL3, ← p2.ad]; rfl

/-- the `}` after the fields of an object below the originating level: what `fields }` did to the
    state `st1` the `{` left -/
theorem obj_closed {st1 st2 : LoopSt} {sn : Option (List UInt8)} {oa od : Nat} {fs : Fields} {rest : Bytes}
    (hD1 : Deep st1 oa od) (p2 : PassedF st1 st2 fs) (r2 : st2.p.rem = 0x41 :: rest) (hd : 2 ≤ st1.p.depth) (hod : od < st1.p.depth) :
    ∃ st3, iter st2 sn oa od = (st3, .cont) ∧ st3.p.rem = rest ∧
      Moved st1.p.lvlIdx st1 st3 ((encFields fs).length + 1)
        (viewsOfF fs ++ [⟨.objEnd, (st1.p.getLvl (st1.p.depth - 2)).ad, [], [], .none⟩]) ∧
      st3.p.depth = st1.p.depth - 1 ∧ (∀ i, st1.p.depth - 1 ≤ i → st3.p.getLvl i = Level.zero) := by
  have hD2 : Deep st2 oa od := hD1.after p2.base p2.ad
  have hi2 : st2.p.lvlIdx = st1.p.lvlIdx := by unfold Parser.lvlIdx; rw [p2.base.depth]
  have hi1 : st1.p.lvlIdx = st1.p.depth - 1 := Parser.lvlIdx_of_pos hD1.d1
  have hne : ¬ od = st2.p.depth := by rw [p2.base.depth]; exact Nat.ne_of_lt hod
  obtain ⟨st3, i3, r3, s3⟩ := iter_objEnd_pop (sn := sn) (oa := oa) (od := od) hD2.shape hD2.err rest r2 (by rw [hi2]; exact p2.flags)
    (by rw [p2.base.depth]; exact hd) hD2.cont.has_objEnd (fun h => absurd h hne)
  rw [if_neg hne, hD2.cont.proceed_eq] at i3
  rw [if_neg hne, p2.base.depth] at s3
  have hm3 : Moved st1.p.lvlIdx st2 st3 1 [⟨.objEnd, (st1.p.getLvl (st1.p.depth - 2)).ad, [], [], .none⟩] := by
    rw [← p2.base.moved.lower _ (hi1 ▸ Nat.sub_lt_sub_left hd (Nat.lt_succ_self 1))]
    exact step_moved s3 (fun i hi => if_neg (Nat.ne_of_lt (hi1 ▸ hi)))
  refine ⟨st3, i3, r3, p2.base.moved.trans hm3, s3.depth, fun i hi => ?_⟩
  rw [s3.lvl]
  by_cases h : i = st1.p.depth - 1
  · rw [if_pos h]
  · rw [if_neg h]; exact p2.base.zeros i (Nat.le_of_pred_lt (Nat.lt_of_le_of_ne hi (Ne.symm h)))

theorem tokens_scalar {v : Value} (h : v.isContainer = false) : tokens v = 1 := by
  cases v <;> first | rfl | cases h

theorem firstObstacle_scalar {v : Value} (h : v.isContainer = false) (d a : Nat) : firstObstacle d a v = none := by
  cases v <;> first | rfl | cases h

/-- the loop over an encoded value in value position below the originating level -/
def RunsV (v : Value) : Prop :=
  ∀ (f : Nat) (st : LoopSt) (sn : Option (List UInt8)) (oa od : Nat) (rest : Bytes),
    Deep st oa od → st.p.rem = encode v ++ rest → wfValue v = true → ValCtx (st.p.getLvl st.p.lvlIdx) →
    Ran f (tokens v) st sn oa od rest (fun st' => PassedV st st' v)
      (firstObstacle (st.p.maxDepth - st.p.depth) (255 - (st.p.getLvl st.p.lvlIdx).ad) v)

/-- ... over the elements of an array -/
def RunsE (xs : Elems) : Prop :=
  ∀ (f : Nat) (st : LoopSt) (sn : Option (List UInt8)) (oa od : Nat) (rest : Bytes),
    Deep st oa od → st.p.rem = encElems xs ++ rest → wfElems xs = true →
    (((st.p.getLvl st.p.lvlIdx).flags = .arr1 ∨ (st.p.getLvl st.p.lvlIdx).flags = .arr2) ∧ 1 ≤ (st.p.getLvl st.p.lvlIdx).ad) →
    Ran f (tokensE xs) st sn oa od rest (fun st' => PassedE st st' xs)
      (firstObstacleE (st.p.maxDepth - st.p.depth) (255 - (st.p.getLvl st.p.lvlIdx).ad) xs)

/-- ... over the fields of an object -/
def RunsF (fs : Fields) : Prop :=
  ∀ (f : Nat) (st : LoopSt) (sn : Option (List UInt8)) (oa od : Nat) (rest : Bytes),
    Deep st oa od → st.p.rem = encFields fs ++ rest → wfFields (prevName st.p) fs = true →
    (st.p.getLvl st.p.lvlIdx).flags = .expField → (st.p.getLvl st.p.lvlIdx).ad = 0 →
    Ran f (tokensF fs) st sn oa od rest (fun st' => PassedF st st' fs) (firstObstacleF (st.p.maxDepth - st.p.depth) fs)

theorem run_scalar (v : Value) (hsv : v.isContainer = false) : RunsV v := by
  intro f st sn oa od rest hD hrem hwf hctx
  obtain ⟨st', h1, h2, h3⟩ := pass_scalar v hsv (sn := sn) hD rest hrem hwf hctx
  rw [firstObstacle_scalar hsv, tokens_scalar hsv]
  exact Ran.step h1 (Ran.nil h2 h3)

theorem run_arr {xs : Elems} (ih : RunsE xs) : RunsV (.arr xs) := by
  intro f st sn oa od rest hD hrem hwf hctx
  have hrem' : st.p.rem = 0x42 :: (encElems xs ++ 0x43 :: rest) := by simpa [encode] using hrem
  rw [show tokens (.arr xs) = tokensE xs + 1 + 1 from Nat.add_comm 2 _, firstObstacle]
  by_cases ha : 255 - (st.p.getLvl st.p.lvlIdx).ad = 0
  · -- this `[` is the obstacle
    rw [if_pos ha]
    obtain ⟨st1, i1, e1⟩ := iter_arrBegin_full (sn := sn) hD _ hrem' hctx (Nat.le_of_sub_eq_zero ha)
    exact Ran.stop i1 e1
  rw [if_neg ha]
  obtain ⟨st1, i1, r1, hD1, s1⟩ := deep_arrBegin (sn := sn) hD _ hrem' hctx (Nat.lt_of_sub_ne_zero ha)
  have hi1 : st1.p.lvlIdx = st.p.lvlIdx := by unfold Parser.lvlIdx; rw [s1.depth]
  have hl1 : st1.p.getLvl st1.p.lvlIdx = arrInnerLevel (st.p.getLvl st.p.lvlIdx) := by rw [hi1, s1.lvl, if_pos rfl]
  have hl1ad : (st1.p.getLvl st1.p.lvlIdx).ad = (st.p.getLvl st.p.lvlIdx).ad + 1 := by rw [hl1]; rfl
  have ihE := ih (1 + f) st1 sn oa od (0x43 :: rest) hD1 r1 (by simpa [wfValue] using hwf)
    ⟨by rw [hl1]; exact Or.inl rfl, by rw [hl1ad]; exact Nat.le_add_left 1 _⟩
  rw [s1.depth, s1.frame.2.2.1, hl1ad, Nat.sub_add_eq] at ihE
  refine Ran.step i1 (Ran.thenStep ihE fun st2 r2 p2 => ?_)
  obtain ⟨st3, i3, r3, c3, a3, n3, f3⟩ := arr_closed (sn := sn) hD1 p2 r2 (by rw [hl1ad]; exact Nat.le_add_left 1 _)
    (by
      rw [hl1ad, s1.frame.2.2.2.1, s1.depth]
      exact fun ⟨h1, h2, h3⟩ => absurd (hD.rootArr h2 h3) (by rw [Nat.succ.inj h1]; decide))
  rw [hl1ad] at c3 a3 f3
  rw [hi1] at a3 n3 f3
  have hm1 : Moved st.p.lvlIdx st st1 1 [view st.p.buf (.arrBegin, arrInnerLevel (st.p.getLvl st.p.lvlIdx))] :=
    step_moved s1 (fun i hi => if_neg (Nat.ne_of_lt hi))
  refine ⟨st3, i3, r3, ⟨?_, c3.depth.trans s1.depth, fun i hi => c3.zeros i (by rw [s1.depth]; exact hi)⟩, ?_, ?_, ?_⟩
  · have hlen : (encode (.arr xs)).length = 1 + ((encElems xs).length + 1) := by simp [encode]; omega
    rw [hlen]
    exact hm1.trans (c3.moved.mono (by rw [hi1]; exact Nat.le_refl _))
  · rw [a3]; exact Nat.add_sub_cancel ..
  · rw [n3, s1.lvl, if_pos rfl]; rfl
  · rw [f3, show (Value.arr xs).isArr = true from rfl, afterFlags_arr hctx, Nat.add_sub_cancel]

theorem run_obj {fs : Fields} (ih : RunsF fs) : RunsV (.obj fs) := by
  intro f st sn oa od rest hD hrem hwf hctx
  have hdep : st.p.depth = st.p.lvlIdx + 1 := by have := hD.d1; have := Parser.lvlIdx_of_pos hD.d1; omega
  have hrem' : st.p.rem = 0x40 :: (encFields fs ++ 0x41 :: rest) := by simpa [encode] using hrem
  rw [show tokens (.obj fs) = tokensF fs + 1 + 1 from Nat.add_comm 2 _, firstObstacle]
  by_cases hd : st.p.maxDepth - st.p.depth = 0
  · -- this `{` is the obstacle
    rw [if_pos hd]
    obtain ⟨st1, i1, e1⟩ := iter_objBegin_full (sn := sn) hD _ hrem' hctx (Nat.le_of_sub_eq_zero hd)
    exact Ran.stop i1 e1
  rw [if_neg hd]
  obtain ⟨st1, i1, r1, hD1, s1⟩ := deep_objBegin (sn := sn) hD _ hrem' hctx (Nat.lt_of_sub_ne_zero hd)
  have hlt : st.p.lvlIdx < st.p.depth := by rw [hdep]; exact Nat.lt_succ_self _
  have hi1 : st1.p.lvlIdx = st.p.depth := (Parser.lvlIdx_of_pos hD1.d1).trans (by rw [s1.depth]; rfl)
  have hl1 : st1.p.getLvl st1.p.lvlIdx = freshObjLevel := by rw [hi1, s1.lvl, if_pos rfl]
  have hL1 : st1.p.getLvl st.p.lvlIdx = valLevel { st.p.getLvl st.p.lvlIdx with ctype := .object } := by
    rw [s1.lvl, if_neg (Nat.ne_of_lt hlt), if_pos rfl]
  have ihF := ih (1 + f) st1 sn oa od (0x41 :: rest) hD1 r1
    (by unfold prevName; rw [hl1]; simpa [wfValue, freshObjLevel, Level.zero] using hwf)
    (by rw [hl1]; rfl) (by rw [hl1]; rfl)
  rw [s1.depth, s1.frame.2.2.1, Nat.sub_add_eq] at ihF
  refine Ran.step i1 (Ran.thenStep ihF fun st2 r2 p2 => ?_)
  obtain ⟨st3, i3, r3, m3, d3, z3⟩ := obj_closed (sn := sn) hD1 p2 r2 (by rw [s1.depth, hdep]; exact Nat.le_add_left 2 _)
    (by rw [s1.depth]; exact hD.deeper.elim Nat.lt_succ_of_lt fun h => h.1 ▸ Nat.lt_succ_self _)
  rw [s1.depth, Nat.add_sub_cancel] at d3 z3
  rw [hi1, s1.depth, show st.p.depth + 1 - 2 = st.p.lvlIdx by rw [hdep]; rfl, hL1] at m3
  -- the enclosing level was not touched while the fields were read
  have hL3 : st3.p.getLvl st.p.lvlIdx = valLevel { st.p.getLvl st.p.lvlIdx with ctype := .object } := by
    rw [m3.lower _ hlt, hL1]
  have hm1 : Moved st.p.lvlIdx st st1 1 [view st.p.buf (.objBegin, freshObjLevel)] :=
    step_moved s1 (fun i hi => by rw [if_neg (Nat.ne_of_lt (Nat.lt_trans hi hlt)), if_neg (Nat.ne_of_lt hi)])
  refine ⟨st3, i3, r3, ⟨?_, d3, z3⟩, ?_, ?_, ?_⟩
  · have hlen : (encode (.obj fs)).length = 1 + ((encFields fs).length + 1) := by simp [encode]; omega
    rw [hlen]
    exact hm1.trans (m3.mono (Nat.le_of_lt hlt))
  · rw [hL3]; rfl
  · rw [hL3]; rfl
  · rw [hL3]; rfl

theorem run_noElems : RunsE .nil := fun _ st _ _ _ _ hD hrem _ hctx =>
  Ran.nil hrem ⟨⟨⟨hD.shape, hD.err, rfl, rfl, Parser.Frame.refl _, fun _ _ => rfl, ⟨[], rfl, rfl⟩⟩, rfl, hD.zeros⟩, rfl, rfl, hctx.1⟩

theorem run_elem {v : Value} {r : Elems} (ihv : RunsV v) (ihr : RunsE r) : RunsE (.cons v r) := by
  intro f st sn oa od rest hD hrem hwf hctx
  have hwf' : wfValue v = true ∧ wfElems r = true := by simpa [wfElems] using hwf
  have hrem' : st.p.rem = encode v ++ (encElems r ++ rest) := by simpa [encElems] using hrem
  rw [firstObstacleE_cons]
  refine Ran.seq (ihv (tokensE r + f) st sn oa od _ hD hrem' hwf'.1 (Or.inr hctx)) fun st1 r1 p1 => ?_
  have hD1 : Deep st1 oa od := hD.after p1.base p1.ad
  have hi1 : st1.p.lvlIdx = st.p.lvlIdx := by unfold Parser.lvlIdx; rw [p1.base.depth]
  have hf1 : (st1.p.getLvl st1.p.lvlIdx).flags = .arr1 ∨ (st1.p.getLvl st1.p.lvlIdx).flags = .arr2 := by
    rw [hi1, p1.flags]; unfold afterFlags
    rcases hctx.1 with h | h <;> cases v.isArr <;> simp [h]
  have ha1 : (st1.p.getLvl st1.p.lvlIdx).ad = (st.p.getLvl st.p.lvlIdx).ad := by rw [hi1, p1.ad]
  have ih2 := ihr f st1 sn oa od rest hD1 r1 hwf'.2 ⟨hf1, by rw [ha1]; exact hctx.2⟩
  rw [p1.base.depth, p1.base.moved.frame.2.2.1, ha1] at ih2
  cases ho : firstObstacleE (st.p.maxDepth - st.p.depth) (255 - (st.p.getLvl st.p.lvlIdx).ad) r with
  | some b => rw [ho] at ih2; exact ih2
  | none =>
  rw [ho] at ih2
  obtain ⟨st2, i2, r2, p2⟩ := ih2
  have hm2 : Moved st.p.lvlIdx st1 st2 (encElems r).length (viewsOfE (st.p.getLvl st.p.lvlIdx).ad r) := by
    rw [← ha1]; exact p2.base.moved.mono (by rw [hi1]; exact Nat.le_refl _)
  refine ⟨st2, i2, r2, ⟨?_, by rw [p2.base.depth, p1.base.depth], fun i hi => p2.base.zeros i (by rw [p1.base.depth]; exact hi)⟩, ?_, ?_, ?_⟩
  · have hlen : (encElems (.cons v r)).length = (encode v).length + (encElems r).length := by simp [encElems]
    rw [hlen]
    exact p1.base.moved.trans hm2
  · have := p2.ad; rw [hi1] at this; rw [this, p1.ad]
  · have := p2.name; rw [hi1] at this; rw [this, p1.name]
  · have := p2.flags; rw [hi1] at this; exact this

theorem run_noFields : RunsF .nil := fun _ st _ _ _ _ hD hrem _ hfl _ =>
  Ran.nil hrem ⟨⟨⟨hD.shape, hD.err, rfl, rfl, Parser.Frame.refl _, fun _ _ => rfl, ⟨[], rfl, rfl⟩⟩, rfl, hD.zeros⟩, rfl, hfl⟩

theorem run_field {n : Bytes} {v : Value} {r : Fields} (ihv : RunsV v) (ihr : RunsF r) : RunsF (.cons n v r) := by
  intro f st sn oa od rest hD hrem hwf hfl had
  have hsh := hD.shape
  have hwf' : nameAfter (prevName st.p) n = true ∧ n.length ≤ INT32_MAX ∧ wfValue v = true ∧ wfFields (some n) r = true := by
    simpa [wfFields, and_assoc] using hwf
  have hrem' : st.p.rem = encStr 0x14 n ++ (encode v ++ (encFields r ++ rest)) := by simpa [encFields] using hrem
  -- the name
  obtain ⟨c1, c2, hfitn, hord⟩ := name_token hsh hD.err n _ hrem' hwf'.2.1 hwf'.1
  obtain ⟨st1, i1, hD1, s1⟩ := deep_fieldName (sn := sn) hD
    ⟨st.p.used + 1 + intWidth (n.length : Int), n.length⟩ _ _ (by simp only [Nat.add_assoc]) c1 (by simp only; omega) hfl hord
  have hi1 : st1.p.lvlIdx = st.p.lvlIdx := by unfold Parser.lvlIdx; rw [s1.depth]
  have hl1 : st1.p.getLvl st1.p.lvlIdx = nameLevel (st.p.getLvl st.p.lvlIdx) ⟨st.p.used + 1 + intWidth (n.length : Int), n.length⟩ := by
    rw [hi1, s1.lvl, if_pos rfl]
  have hr1 : st1.p.rem = encode v ++ (encFields r ++ rest) :=
    rem_of_frame s1.frame.2.1 s1.used hsh hrem' (encStr_length _ _)
  have had1 : (st1.p.getLvl st1.p.lvlIdx).ad = 0 := by rw [hl1]; exact had
  -- the value
  have ih1 := ihv (tokensF r + f) st1 sn oa od _ hD1 hr1 hwf'.2.2.1 (by rw [hl1]; exact Or.inl ⟨rfl, had⟩)
  rw [s1.depth, s1.frame.2.2.1, had1] at ih1
  rw [show tokensF (.cons n v r) = tokens v + tokensF r + 1 from (Nat.add_assoc 1 _ _).trans (Nat.add_comm 1 _), firstObstacleF_cons]
  refine Ran.step i1 (Ran.seq ih1 fun st2 r2 p2 => ?_)
  have hD2 : Deep st2 oa od := hD1.after p2.base p2.ad
  have hi2 : st2.p.lvlIdx = st.p.lvlIdx := by unfold Parser.lvlIdx; rw [p2.base.depth, s1.depth]
  have hl2f : (st2.p.getLvl st2.p.lvlIdx).flags = .expField := by
    rw [hi2, ← hi1, p2.flags, hl1]; simp [afterFlags, nameLevel]
  have hl2a : (st2.p.getLvl st2.p.lvlIdx).ad = 0 := by rw [hi2, ← hi1, p2.ad, hl1]; exact had
  have hl2n : (st2.p.getLvl st2.p.lvlIdx).name = some ⟨st.p.used + 1 + intWidth (n.length : Int), n.length⟩ := by
    rw [hi2, ← hi1, p2.name, hl1]; rfl
  have hbuf2 : st2.p.buf = st.p.buf := (s1.frame.trans p2.base.moved.frame).2.1
  -- the remaining fields
  have ih2 := ihr f st2 sn oa od rest hD2 r2
    (by
      unfold prevName; rw [hl2n]; simp only [Option.map]
      rw [c2 st2.p hbuf2]; exact hwf'.2.2.2)
    hl2f hl2a
  rw [p2.base.depth, s1.depth, p2.base.moved.frame.2.2.1, s1.frame.2.2.1] at ih2
  cases ho : firstObstacleF (st.p.maxDepth - st.p.depth) r with
  | some b => rw [ho] at ih2; exact ih2
  | none =>
  rw [ho] at ih2
  obtain ⟨st3, i3, r3, p3⟩ := ih2
  have hm1 : Moved st.p.lvlIdx st st1 (1 + intWidth (n.length : Int) + n.length)
      [view st.p.buf (.fieldName, nameLevel (st.p.getLvl st.p.lvlIdx) ⟨st.p.used + 1 + intWidth (n.length : Int), n.length⟩)] :=
    step_moved s1 (fun i hi => if_neg (Nat.ne_of_lt hi))
  have hm2 : Moved st.p.lvlIdx st1 st2 (encode v).length (viewsOf (st1.p.getLvl st1.p.lvlIdx).ad v) :=
    p2.base.moved.mono (by rw [hi1]; exact Nat.le_refl _)
  have hm3 : Moved st.p.lvlIdx st2 st3 (encFields r).length (viewsOfF r) :=
    p3.base.moved.mono (by rw [hi2]; exact Nat.le_refl _)
  have hm := (hm1.trans hm2).trans hm3
  refine ⟨st3, i3, r3, ⟨?_, by rw [p3.base.depth, p2.base.depth, s1.depth],
    fun i hi => p3.base.zeros i (by rw [p2.base.depth, s1.depth]; exact hi)⟩, ?_, ?_⟩
  · have hlen : (encFields (.cons n v r)).length = (1 + intWidth (n.length : Int) + n.length) + (encode v).length + (encFields r).length := by
      simp [encFields, encStr_length]; omega
    have hvw : viewsOfF (.cons n v r) =
        [view st.p.buf (.fieldName, nameLevel (st.p.getLvl st.p.lvlIdx) ⟨st.p.used + 1 + intWidth (n.length : Int), n.length⟩)] ++
        viewsOf (st1.p.getLvl st1.p.lvlIdx).ad v ++ viewsOfF r := by
      rw [hl1]
      simp only [viewsOfF, view, evName, nameLevel, had]
      have := c2 st.p rfl
      unfold Parser.slice at this
      simp only at this
      rw [this]; simp
    rw [hlen, hvw]; exact hm
  · have := p3.ad; rw [hi2] at this; rw [this, had]; have h2 := hl2a; rw [hi2] at h2; exact h2
  · have := p3.flags; rw [hi2] at this; exact this

mutual
theorem run_value : (v : Value) → RunsV v
  | .bool _ => run_scalar _ rfl
  | .int _ => run_scalar _ rfl
  | .dbl _ => run_scalar _ rfl
  | .str _ => run_scalar _ rfl
  | .bytes _ => run_scalar _ rfl
  | .arr xs => run_arr (run_elems xs)
  | .obj fs => run_obj (run_fields fs)
theorem run_elems : (xs : Elems) → RunsE xs
  | .nil => run_noElems
  | .cons v r => run_elem (run_value v) (run_elems r)
theorem run_fields : (fs : Fields) → RunsF fs
  | .nil => run_noFields
  | .cons _ v r => run_field (run_value v) (run_fields r)
end

/-- Pass-through, value: `tokens v` iterations consume exactly `encode v`. -/
theorem pass_value : (v : Value) → ∀ (f : Nat) (st : LoopSt) (sn : Option (List UInt8)) (oa od : Nat) (rest : Bytes),
    Deep st oa od → st.p.rem = encode v ++ rest → wfValue v = true → ValCtx (st.p.getLvl st.p.lvlIdx) →
    fits (st.p.maxDepth - st.p.depth) (255 - (st.p.getLvl st.p.lvlIdx).ad) v = true →
    ∃ st', advLoop (tokens v + f) st sn oa od = advLoop f st' sn oa od ∧ st'.p.rem = rest ∧ PassedV st st' v := by
  intro v f st sn oa od rest hD hrem hwf hctx hfit
  have h := run_value v f st sn oa od rest hD hrem hwf hctx
  rw [(firstObstacle_none_iff_fits _ _ _).mpr hfit] at h
  exact h

theorem pass_elems : (xs : Elems) → ∀ (f : Nat) (st : LoopSt) (sn : Option (List UInt8)) (oa od : Nat) (rest : Bytes),
    Deep st oa od → st.p.rem = encElems xs ++ rest → wfElems xs = true →
    (((st.p.getLvl st.p.lvlIdx).flags = .arr1 ∨ (st.p.getLvl st.p.lvlIdx).flags = .arr2) ∧ 1 ≤ (st.p.getLvl st.p.lvlIdx).ad) →
    fitsE (st.p.maxDepth - st.p.depth) (255 - (st.p.getLvl st.p.lvlIdx).ad) xs = true →
    ∃ st', advLoop (tokensE xs + f) st sn oa od = advLoop f st' sn oa od ∧ st'.p.rem = rest ∧ PassedE st st' xs := by
  intro xs f st sn oa od rest hD hrem hwf hctx hfit
  have h := run_elems xs f st sn oa od rest hD hrem hwf hctx
  rw [(firstObstacleE_none_iff_fitsE _ _ _).mpr hfit] at h
  exact h

theorem pass_fields : (fs : Fields) → ∀ (f : Nat) (st : LoopSt) (sn : Option (List UInt8)) (oa od : Nat) (rest : Bytes),
    Deep st oa od → st.p.rem = encFields fs ++ rest → wfFields (prevName st.p) fs = true →
    (st.p.getLvl st.p.lvlIdx).flags = .expField → (st.p.getLvl st.p.lvlIdx).ad = 0 →
    fitsF (st.p.maxDepth - st.p.depth) fs = true →
    ∃ st', advLoop (tokensF fs + f) st sn oa od = advLoop f st' sn oa od ∧ st'.p.rem = rest ∧ PassedF st st' fs := by
  intro fs f st sn oa od rest hD hrem hwf hfl had hfit
  have h := run_fields fs f st sn oa od rest hD hrem hwf hfl had
  rw [(firstObstacleF_none_iff_fitsF _ _).mpr hfit] at h
  exact h

/-- a value containing a nesting obstacle: the loop stops at the first one with its code -/
theorem stuck_value : (v : Value) → ∀ (f : Nat) (st : LoopSt) (sn : Option (List UInt8)) (oa od : Nat) (rest : Bytes) (b : Bool),
    Deep st oa od → st.p.rem = encode v ++ rest → wfValue v = true → ValCtx (st.p.getLvl st.p.lvlIdx) →
    firstObstacle (st.p.maxDepth - st.p.depth) (255 - (st.p.getLvl st.p.lvlIdx).ad) v = some b →
    ∃ st', advLoop (tokens v + f) st sn oa od = (st', .done false) ∧ st'.p.err = obstacleErr b := by
  intro v f st sn oa od rest b hD hrem hwf hctx hob
  have h := run_value v f st sn oa od rest hD hrem hwf hctx
  rw [hob] at h
  exact h

end Binson
