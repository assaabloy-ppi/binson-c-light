/-
  C08: one pass through the loop body on a BEGIN token, a field name or a scalar, in EVERY scan
  mode, as a relation between the parser before and after (error flag, cursor, depth, levels).
-/
import Binson.Lemmas.StreamIter
namespace Binson

/-- the parser the classification stage hands on for a BEGIN token -/
theorem beginQ {p : Parser} (hs : Shape p) (he : p.err = .none) (ty : Ty) :
    Shape (p.setLvl p.lvlIdx { p.getLvl p.lvlIdx with ctype := ty }) ∧
    Stored p p.used p.lvlIdx { p.getLvl p.lvlIdx with ctype := ty } (p.setLvl p.lvlIdx { p.getLvl p.lvlIdx with ctype := ty }) :=
  ⟨hs.setLvl _ hs.lvlIdx_lt (SpansOk_of_fields rfl rfl (hs.hsp he p.lvlIdx)), stored_setLvl p p.used _ hs.lvlIdx_lt⟩

/-- a BEGIN token the scan mode does not consume: only the flags of the entry move on -/
theorem sim_unconsumed {L lv' : Level} (a1 : lv'.ad = L.ad) (a2 : lv'.name = L.name) (a3 : ValAfter L.flags lv'.flags) :
    L.Sim (if lv'.flags = .expField then { lv' with flags := .expValue } else lv') := by
  have e : (if lv'.flags = .expField then ({ lv' with flags := .expValue } : Level) else lv').flags =
      (if lv'.flags = .expField then .expValue else lv'.flags) := by split <;> rfl
  refine ⟨?_, ?_, e ▸ flagsSim_unconsumed a3⟩
  · split <;> exact a1
  · split <;> exact a2

theorem tok_objBegin {st : LoopSt} (sn : Option (List UInt8)) (oa od : Nat) (hs : Shape st.p) (he : st.p.err = .none)
    (rs : Bytes) (hrem : st.p.rem = 0x40 :: rs) (hf : ValPos (st.p.getLvl st.p.lvlIdx).flags)
    (R : Parser) (hR : R = (iter st sn oa od).1.p) :
    R.err ≠ .none ∨
    (R.err = .none ∧ R.used = st.p.used + 1 ∧ R.depth = st.p.depth + 1 ∧ st.p.depth < st.p.maxDepth ∧
      ∃ L', L'.ad = (st.p.getLvl st.p.lvlIdx).ad ∧ L'.name = (st.p.getLvl st.p.lvlIdx).name ∧
        ValAfter (st.p.getLvl st.p.lvlIdx).flags L'.flags ∧
        ∀ j, R.getLvl j = if j = st.p.depth then { (if st.p.depth = st.p.lvlIdx then L' else st.p.getLvl st.p.depth) with flags := .expField }
                          else if j = st.p.lvlIdx then L' else st.p.getLvl j) ∨
    (R.err = .none ∧ R.used = st.p.used ∧ R.depth = st.p.depth ∧
      ∃ L', (st.p.getLvl st.p.lvlIdx).Sim L' ∧ ∀ j, R.getLvl j = if j = st.p.lvlIdx then L' else st.p.getLvl j) := by
  have hcl := classify_objBegin hs he st.bc rs hrem
  obtain ⟨q1, Q⟩ := beginQ hs he .object
  generalize st.p.setLvl st.p.lvlIdx { st.p.getLvl st.p.lvlIdx with ctype := .object } = q at hcl q1 Q
  have q2 := Q.err.trans he
  have hX : q.getLvl q.lvlIdx = { st.p.getLvl st.p.lvlIdx with ctype := .object } := by rw [Q.lvlIdx, Q.lvl, if_pos rfl]
  have hob := objBlock_valpos (l := q.getLvl q.lvlIdx) (tok := .objBegin) (by rw [hX]; exact hf) rfl
  obtain ⟨lv', scan', st', hsim, hit⟩ := iter_p sn oa od hcl (by decide) hob
  obtain ⟨a1, a2, a3⟩ := valAfter_of (L := st.p.getLvl st.p.lvlIdx) (X := q.getLvl q.lvlIdx) hf (by rw [hX]) (by rw [hX]) (by rw [hX]) hsim
  generalize hr : dispatch st' q lv' q.lvlIdx scan' .objBegin _ _ sn oa od = r at hit
  rw [hit] at hR
  subst hR
  rcases (caseObjBegin_full q2 q1.lvlIdx_lt q1.hcur q1.hlv hr).1 with ⟨_, h, _⟩ | ⟨_, r4, _, _, r1, r2, r3, r5⟩ | ⟨_, _, _, W⟩
  · exact Or.inl h
  · refine Or.inr (Or.inl ⟨r1, by rw [r2, Q.used], by rw [r3, Q.depth], by rw [Q.depth, ← q1.hlv, Q.lsize, hs.hlv] at r4; exact r4, lv', a1, a2, a3, ?_⟩)
    -- outside the current entry, `q` holds what `st.p` holds
    have hq : ∀ k, ¬ k = st.p.lvlIdx → q.getLvl k = st.p.getLvl k := fun k h => (Q.lvl k).trans (if_neg h)
    intro j
    rw [r5 j, Q.depth, Q.lvlIdx, ite_congr rfl (fun _ => rfl) (hq j), ite_congr rfl (fun _ => rfl) (hq st.p.depth)]
  · have T := Q.trans (Q.lvlIdx ▸ W)
    exact Or.inr (Or.inr ⟨T.err.trans he, T.used.trans Q.used, T.depth, _, sim_unconsumed a1 a2 a3, T.lvl⟩)

theorem tok_arrBegin {st : LoopSt} (sn : Option (List UInt8)) (oa od : Nat) (hs : Shape st.p) (he : st.p.err = .none)
    (rs : Bytes) (hrem : st.p.rem = 0x42 :: rs) (hf : ValPos (st.p.getLvl st.p.lvlIdx).flags)
    (R : Parser) (hR : R = (iter st sn oa od).1.p) :
    R.err ≠ .none ∨
    (R.err = .none ∧ R.used = st.p.used + 1 ∧ R.depth = st.p.depth ∧ (st.p.getLvl st.p.lvlIdx).ad < 255 ∧
      ∃ L', L'.ad = (st.p.getLvl st.p.lvlIdx).ad + 1 ∧ L'.name = (st.p.getLvl st.p.lvlIdx).name ∧ L'.flags = .arr1 ∧
        ∀ j, R.getLvl j = if j = st.p.lvlIdx then L' else st.p.getLvl j) ∨
    (R.err = .none ∧ R.used = st.p.used ∧ R.depth = st.p.depth ∧
      ∃ L', (st.p.getLvl st.p.lvlIdx).Sim L' ∧ ∀ j, R.getLvl j = if j = st.p.lvlIdx then L' else st.p.getLvl j) := by
  have hcl := classify_arrBegin hs he st.bc rs hrem
  obtain ⟨q1, Q⟩ := beginQ hs he .array
  generalize st.p.setLvl st.p.lvlIdx { st.p.getLvl st.p.lvlIdx with ctype := .array } = q at hcl q1 Q
  have hX : q.getLvl q.lvlIdx = { st.p.getLvl st.p.lvlIdx with ctype := .array } := by rw [Q.lvlIdx, Q.lvl, if_pos rfl]
  have hob := objBlock_valpos (l := q.getLvl q.lvlIdx) (tok := .arrBegin) (by rw [hX]; exact hf) rfl
  obtain ⟨lv', scan', st', hsim, hit⟩ := iter_p sn oa od hcl (by decide) hob
  obtain ⟨a1, a2, a3⟩ := valAfter_of (L := st.p.getLvl st.p.lvlIdx) (X := q.getLvl q.lvlIdx) hf (by rw [hX]) (by rw [hX]) (by rw [hX]) hsim
  generalize hr : dispatch st' q lv' q.lvlIdx scan' .arrBegin _ _ sn oa od = r at hit
  rw [hit] at hR
  subst hR
  rcases (caseArrBegin_full (Q.err.trans he) q1.lvlIdx_lt q1.hcur hr).1 with ⟨_, h, _⟩ | ⟨_, r4, _, _, W⟩ | ⟨_, _, _, W⟩
  · exact Or.inl h
  · have T := Q.trans (Q.lvlIdx ▸ W)
    exact Or.inr (Or.inl ⟨T.err.trans he, T.used.trans (by rw [Q.used]), T.depth, a1 ▸ r4, arrInnerLevel' lv', congrArg (· + 1) a1, a2, rfl, T.lvl⟩)
  · have T := Q.trans (Q.lvlIdx ▸ W)
    exact Or.inr (Or.inr ⟨T.err.trans he, T.used.trans Q.used, T.depth, _, sim_unconsumed a1 a2 a3, T.lvl⟩)

theorem ArrSim.eq_of_expField {lv lv' : Level} (h : ArrSim lv lv') (hf : lv'.flags = .expField) : lv' = lv := by
  rcases h with h | ⟨_, h | h⟩
  · exact h
  · rw [h] at hf; cases hf
  · rw [h] at hf; cases hf

/-- the flags word is one the loop itself has written -/
def NoJunk (f : Flags) : Prop := ∀ o a, f ≠ .junk o a

theorem ArrSim.sim {lv lv' : Level} (h : ArrSim lv lv') (hj : NoJunk lv.flags) : lv.Sim lv' := by
  rcases h with h | ⟨h0, h⟩
  · rw [h]; exact ⟨rfl, rfl, Or.inl rfl⟩
  · have hL : lv.flags = .arr1 ∨ lv.flags = .arr2 := by
      rcases inArray_cases h0 with h | h | ⟨o, h⟩
      · exact Or.inl h
      · exact Or.inr h
      · exact absurd h (hj o true)
    rcases h with h | h <;> rw [h]
    · exact ⟨rfl, rfl, Or.inr ⟨hL, Or.inl rfl⟩⟩
    · exact ⟨rfl, rfl, Or.inr ⟨hL, Or.inr rfl⟩⟩

theorem ArrSim.inArray {lv lv' : Level} (h : ArrSim lv lv') (hf : lv'.flags.inArray = true) : lv.flags.inArray = true := by
  rcases h with h | ⟨h0, _⟩
  · rw [← h]; exact hf
  · exact h0

theorem ArrSim.ad {lv lv' : Level} (h : ArrSim lv lv') : lv'.ad = lv.ad ∧ lv'.name = lv.name := by
  rcases h with h | ⟨_, h | h⟩ <;> rw [h] <;> exact ⟨rfl, rfl⟩

theorem ArrSim.eq_of_notArr {lv lv' : Level} (h : ArrSim lv lv') (hf : lv.flags.inArray = false) : lv' = lv := by
  rcases h with h | ⟨h, _⟩
  · exact h
  · rw [hf] at h; cases h

theorem tok_name {st : LoopSt} (sn : Option (List UInt8)) (oa od : Nat) (hs : Shape st.p) (he : st.p.err = .none)
    (span : Span) (bc : Nat) (hcl : classify st.p st.bc = ⟨.string, span, bc, { st.p with used := st.p.used + bc }⟩)
    (hsp : span.off + span.len ≤ st.p.size) (hf : (st.p.getLvl st.p.lvlIdx).flags = .expField)
    (R : Parser) (hR : R = (iter st sn oa od).1.p) :
    R.err ≠ .none ∨
    (R.err = .none ∧ R.used = st.p.used ∧ R.depth = st.p.depth ∧ ∀ j, R.getLvl j = st.p.getLvl j) ∨
    (nameOrdErr st.p (st.p.getLvl st.p.lvlIdx) span = false ∧ R.err = .none ∧ R.used = st.p.used + bc ∧ R.depth = st.p.depth ∧
      ∀ j, R.getLvl j = if j = st.p.lvlIdx then nameLevel (st.p.getLvl st.p.lvlIdx) span else st.p.getLvl j) := by
  obtain ⟨lv', scan', st', hsim, hit⟩ := iter_p sn oa od hcl (by decide) (objBlock_fieldName hf)
  have hsim : ArrSim (st.p.getLvl st.p.lvlIdx) lv' := hsim
  obtain rfl := hsim.eq_of_notArr (by rw [hf]; rfl)
  generalize hr : dispatch st' _ _ _ scan' .fieldName _ _ sn oa od = r at hit
  rw [hit] at hR
  subst hR
  rcases (caseFieldName_full (p := { st.p with used := st.p.used + bc }) he hs.lvlIdx_lt hs.hcur
      (inBuf_of (p := { st.p with used := st.p.used + bc }) hs.hbs (hs.hsp he _) hsp) rfl hr).1 with ⟨_, h, _⟩ | ⟨_, _, _, _, _, W⟩ | ⟨r0, _, _, W⟩
  · exact Or.inl h
  · refine Or.inr (Or.inl ⟨W.err.trans he, W.used.trans (Nat.add_sub_cancel ..), W.depth, fun j => ?_⟩)
    rw [W.lvl j]
    split
    · rename_i h
      rw [h, ← hf]
      rfl
    · rfl
  · exact Or.inr (Or.inr ⟨r0, W.err.trans he, W.used, W.depth, W.lvl⟩)

theorem tok_scalar {st : LoopSt} (sn : Option (List UInt8)) (oa od : Nat) (hs : Shape st.p) (he : st.p.err = .none)
    (tok : Tok) (span : Span) (bc : Nat) (hcl : classify st.p st.bc = ⟨tok, span, bc, { st.p with used := st.p.used + bc }⟩)
    (hsc : tok.isScalar = true) (hsp : span.off + span.len ≤ st.p.size) (hf : ValPos (st.p.getLvl st.p.lvlIdx).flags)
    (R : Parser) (hR : R = (iter st sn oa od).1.p) :
    R.err ≠ .none ∨
    ((tok = .integer → intBoundsOk (parseIntVal st.p span) span.len = true) ∧
      R.err = .none ∧ R.used = st.p.used + bc ∧ R.depth = st.p.depth ∧
      ∃ L', L'.ad = (st.p.getLvl st.p.lvlIdx).ad ∧ L'.name = (st.p.getLvl st.p.lvlIdx).name ∧
        ValAfter (st.p.getLvl st.p.lvlIdx).flags L'.flags ∧
        ∀ j, R.getLvl j = if j = st.p.lvlIdx then L' else st.p.getLvl j) := by
  have hval : tok.isValue = true := by cases tok <;> first | rfl | cases hsc
  have hne : tok ≠ .error := by intro h; rw [h] at hsc; cases hsc
  have hob := objBlock_valpos (l := st.p.getLvl st.p.lvlIdx) (tok := tok) hf hval
  obtain ⟨lv', scan', st', hsim, hit⟩ := iter_p sn oa od hcl hne hob
  obtain ⟨a1, a2, a3⟩ := valAfter_of (L := st.p.getLvl st.p.lvlIdx) (X := st.p.getLvl st.p.lvlIdx) hf rfl rfl rfl hsim
  rw [hit, dispatch_scalar (Or.inl hsc)] at hR
  generalize hr : caseScalar st' tok _ lv' _ scan' span = r at hR
  subst hR
  rcases (caseScalar_full (p := { st.p with used := st.p.used + bc }) he hs.lvlIdx_lt hs.hcur
    (touchBuf_of_le (by rw [hs.hbs]; exact hsp)) hr).1 with ⟨_, h, _⟩ | ⟨_, r0, _, _, W⟩
  · exact Or.inl h
  · obtain ⟨n1, n2, n3⟩ := scalarStore_fields tok lv' span { st.p with used := st.p.used + bc }
    have r0' : tok = .integer → intBoundsOk (parseIntVal st.p span) span.len = true := by
      intro h
      rw [← parseIntVal_congr (p := st.p) (q := { st.p with used := st.p.used + bc }) rfl span]
      exact r0 h
    exact Or.inr ⟨r0', W.err.trans he, W.used, W.depth, _, n3.trans a1, n1.trans a2, by rw [n2]; exact a3, W.lvl⟩

end Binson
