/-
  Layer 4, corollaries, top: what C08 ⇐ (Props/C08.lean) is read off — on bytes that verify
  accepts, every protocol-following traversal succeeds: no call raises an error, every
  `go_into_*` / `leave_*` returns true, and when the root has been left the machine's root is
  closed at the end of the buffer (`RootClosed`, the hypothesis of the ⇒ direction `stream_sound`).
-/
import Binson.Lemmas.NavCorLookup
import Binson.Lemmas.NavCorRaw
import Binson.Lemmas.VerifySound
namespace Binson

theorem Cursor.step_ok_of_allowed (c : Cursor) (op : COp) (ha : c.allowed op = true)
    (h : op = .enterObj ∨ op = .enterArr ∨ op = .leaveObj ∨ op = .leaveArr) : (c.step op).2.ok = true := by
  cases op with
  | enterObj | enterArr =>
    simp only [Cursor.allowed] at ha
    simp only [Cursor.step]
    cases hp : c.pending with
    | none => rw [hp] at ha; cases ha
    | some n => rfl
  | leaveObj | leaveArr =>
    simp only [Cursor.allowed] at ha
    simp only [Cursor.step]
    cases hf : c.frames with
    | nil => rw [hf] at ha; cases ha
    | cons f fs => rfl
  | next | raw | field => simp at h

theorem reachable_err {g : Parser} {root : Root} {v : Value} {p : Parser} {c : Cursor}
    (h : Reachable g root v p c) : p.err = .none ∧ p.fault = false ∧ p.oof = false :=
  ⟨(reachable_good h).err, (reachable_inv h).shape.hnf, (reachable_inv h).shape.hno⟩

theorem reachable_closed {g : Parser} {root : Root} {v : Value} {p : Parser} {c : Cursor}
    (h : Reachable g root v p c) (hd : c.done = true) : RootClosed p :=
  (reachable_good h).closed hd

theorem Fresh.unique {W W' : Parser} {buf : Array UInt8} {t md : Nat} (h : Fresh W buf t md) (h' : Fresh W' buf t md) : W = W' := by
  have hl : W.levels = W'.levels := by
    apply Array.ext
    · rw [h.shape.hlv, h'.shape.hlv, h.maxDepth, h'.maxDepth]
    · intro i h1 h2
      have a := h.zeros i
      have b := h'.zeros i
      unfold Parser.getLvl at a b
      rw [Array.getD_eq_getD_getElem?, Array.getElem?_eq_getElem h1] at a
      rw [Array.getD_eq_getD_getElem?, Array.getElem?_eq_getElem h2] at b
      simp only [Option.getD_some] at a b
      rw [a, b]
  have hc : W.cur = W'.cur := by
    rw [h.shape.hcur, h'.shape.hcur]; unfold Parser.lvlIdx; rw [h.depth, h'.depth]
  have hs : W.size = W'.size := by rw [← h.shape.hbs, ← h'.shape.hbs, h.buf, h'.buf]
  have e1 := h.ptype.trans h'.ptype.symm
  have e2 := h.depth.trans h'.depth.symm
  have e3 := h.maxDepth.trans h'.maxDepth.symm
  have e4 := h.used.trans h'.used.symm
  have e5 := h.buf.trans h'.buf.symm
  have e6 := h.err.trans h'.err.symm
  have e7 := h.shape.hnf.trans h'.shape.hnf.symm
  have e8 := h.shape.hno.trans h'.shape.hno.symm
  cases W; cases W'
  simp only at hl hc hs e1 e2 e3 e4 e5 e6 e7 e8
  simp only [Parser.mk.injEq]
  exact ⟨e1, e2, e3, hs, e4, e5, e6, hl, hc, e7, e8⟩

/-- a successful `verify` leaves the parser object exactly as `init` made it: whatever is proved
    about traversals after `init` holds for traversals after `init` + `verify` -/
theorem verify_gives_back {g : Parser} {root : Root} {v : Value} (hS : NavSetup g root v) :
    (verify (navStart g root v).1).1 = (navStart g root v).1 := by
  have hF := hS.fresh
  have := (verify_fresh root hF hS.md v (by simp) hS.wf).2.2
  exact this.unique hF

/-- the two directions of C08 together, for a complete protocol-following traversal: the traversal
    that leaves the root ends with the root closed and no error — which is what `stream_sound`
    needs to conclude that verify accepts. (Non-vacuity of the ⇒ hypothesis on accepted bytes.) -/
theorem protocol_run_closed (g : Parser) (ha : Alloc g) (hmd : g.maxDepth ≤ 255) (root : Root) (v : Value)
    (hwf : wfDoc root g.maxDepth v = true) (hsz : (encode v).length < 2 ^ 63) (ops : List COp)
    (hd : (navRun (navStart g root v) ops).2.done = true) :
    (navRun (navStart g root v) ops).1.err = .none ∧ RootClosed (navRun (navStart g root v) ops).1 := by
  have hR : Reachable g root v (navRun (navStart g root v) ops).1 (navRun (navStart g root v) ops).2 :=
    ⟨⟨ha, hmd, hwf, hsz⟩, ops, rfl⟩
  exact ⟨(reachable_err hR).1, reachable_closed hR hd⟩

/-! ### non-vacuity: the hypotheses are jointly satisfiable (`{"a":{},"b":true}`, max_depth 2, from a garbage parser object) -/

def navcDemo : Value := .obj (.cons [0x61] (.obj .nil) (.cons [0x62] (.bool true) .nil))

example : NavSetup (garbageParser 2) .object navcDemo :=
  ⟨⟨by decide, by decide, rfl, rfl⟩, by decide, by decide, by decide⟩

/-- inside the root object, before any lookup; at the container "a" after looking it up; root left at the end -/
example :
    (navRun (navStart (garbageParser 2) .object navcDemo) [.enterObj]).2.inObject = true ∧
    (navRun (navStart (garbageParser 2) .object navcDemo) [.enterObj]).2.namesAhead = [[0x61], [0x62]] ∧
    ((navRun (navStart (garbageParser 2) .object navcDemo) [.enterObj, .field [0x61]]).2.cur.map (fun n => n.item.ty)) = some .object ∧
    (navRun (navStart (garbageParser 2) .object navcDemo) [.enterObj, .field [0x61], .raw, .field [0x62], .leaveObj]).2.done = true := by
  decide

end Binson
