/-
  Soundness of verify: the zipper. A context is the stack of open containers with
  their completed children, grouped by parser level: each level holds one open object (or,
  for the bottom level of an array-rooted parser, nothing) and the arrays opened on top of it.
  Pure data: encoding of a context, and closing containers into values.
-/
import Binson.Spec.Value
namespace Binson

/-- completed elements, newest first, onto an accumulator -/
def toElems : List Value → Elems → Elems
  | [], acc => acc
  | v :: r, acc => toElems r (.cons v acc)

/-- completed fields, newest first, onto an accumulator -/
def toFields : List (Bytes × Value) → Fields → Fields
  | [], acc => acc
  | (n, v) :: r, acc => toFields r (.cons n v acc)

def encRevE : List Value → Bytes
  | [] => []
  | v :: r => encRevE r ++ encode v

def encRevF : List (Bytes × Value) → Bytes
  | [] => []
  | (n, v) :: r => encRevF r ++ (encStr 0x14 n ++ encode v)

theorem encElems_toElems (l : List Value) (acc : Elems) : encElems (toElems l acc) = encRevE l ++ encElems acc := by
  induction l generalizing acc with
  | nil => simp [toElems, encRevE]
  | cons v r ih => simp [toElems, encRevE, ih, encElems]

theorem encFields_toFields (l : List (Bytes × Value)) (acc : Fields) :
    encFields (toFields l acc) = encRevF l ++ encFields acc := by
  induction l generalizing acc with
  | nil => simp [toFields, encRevF]
  | cons x r ih =>
    obtain ⟨n, v⟩ := x
    simp [toFields, encRevF, ih, encFields]

/-- one parser level: an open object (unless `virt`) and the arrays open on top of it -/
structure Grp where
  virt : Bool                       -- bottom level of an array-rooted parser: no object
  fs : List (Bytes × Value)         -- completed fields, newest first
  pend : Option Bytes               -- a name whose value is not complete yet
  arrs : List (List Value)          -- open arrays, innermost first; completed elements newest first

def encArrs : List (List Value) → Bytes
  | [] => []
  | a :: as => encArrs as ++ (0x42 :: encRevE a)

def encPend : Option Bytes → Bytes
  | none => []
  | some n => encStr 0x14 n

def encGrp (g : Grp) : Bytes :=
  (if g.virt then [] else 0x40 :: (encRevF g.fs ++ encPend g.pend)) ++ encArrs g.arrs

/-- everything consumed so far; the stack is innermost first -/
def encGs : List Grp → Bytes
  | [] => []
  | g :: r => encGs r ++ encGrp g

/-- a value has been completed in the innermost open container of the level -/
def addVal (g : Grp) (v : Value) : Grp :=
  match g.arrs with
  | a :: as => { g with arrs := (v :: a) :: as }
  | [] =>
    match g.pend with
    | some n => { g with fs := (n, v) :: g.fs, pend := none }
    | none => g

def newGrp : Grp := ⟨false, [], none, []⟩
def rootArrGrp : Grp := ⟨true, [], none, [[]]⟩

theorem encGrp_new : encGrp newGrp = [0x40] := rfl
theorem encGrp_rootArr : encGrp rootArrGrp = [0x42] := rfl

theorem encGrp_addVal (g : Grp) (v : Value) (h : g.arrs = [] → g.virt = false ∧ ∃ n, g.pend = some n) :
    encGrp (addVal g v) = encGrp g ++ encode v := by
  unfold addVal
  cases ha : g.arrs with
  | cons a as => simp [encGrp, encArrs, encRevE, ha]
  | nil =>
    obtain ⟨hv, n, hn⟩ := h ha
    simp [encGrp, encArrs, encRevF, encPend, ha, hn, hv]

theorem encGrp_name (g : Grp) (n : Bytes) (hv : g.virt = false) (ha : g.arrs = []) (hp : g.pend = none) :
    encGrp { g with pend := some n } = encGrp g ++ encStr 0x14 n := by
  simp [encGrp, encArrs, encPend, ha, hp, hv]

theorem encGrp_openArr (g : Grp) : encGrp { g with arrs := [] :: g.arrs } = encGrp g ++ [0x42] := by
  simp [encGrp, encArrs, encRevE]

theorem encGrp_closeArr (g : Grp) (a : List Value) (as : List (List Value)) (ha : g.arrs = a :: as) :
    encGrp g ++ [0x43] = encGrp { g with arrs := as } ++ encode (.arr (toElems a .nil)) := by
  simp [encGrp, encArrs, ha, encode, encElems_toElems, encElems]

theorem encGrp_closeObj (g : Grp) (hv : g.virt = false) (ha : g.arrs = []) (hp : g.pend = none) :
    encGrp g ++ [0x41] = encode (.obj (toFields g.fs .nil)) := by
  simp [encGrp, encArrs, encPend, ha, hp, hv, encode, encFields_toFields, encFields]

/-! ### well-formedness and depth budgets of the completed parts -/

def topName : List (Bytes × Value) → Option Bytes
  | [] => none
  | (n, _) :: _ => some n

/-- completed fields: names strictly ascending (newest first = descending), everything
    well-formed and within the budget of `D` unused state entries -/
def FsOk (D : Nat) : List (Bytes × Value) → Prop
  | [] => True
  | (n, v) :: r => nameAfter (topName r) n = true ∧ n.length ≤ INT32_MAX ∧ wfValue v = true ∧ fits D 255 v = true ∧ FsOk D r

def ElOk (D a : Nat) (l : List Value) : Prop := ∀ v ∈ l, wfValue v = true ∧ fits D a v = true

/-- open arrays of a level: at most 255, the elements of the `k`-th (from outside) fit `255 - k` -/
def ArrsOk (D : Nat) : List (List Value) → Prop
  | [] => True
  | a :: as => as.length + 1 ≤ 255 ∧ ElOk D (255 - (as.length + 1)) a ∧ ArrsOk D as

structure GrpOk (D : Nat) (g : Grp) : Prop where
  fs : FsOk D g.fs
  pend : ∀ n, g.pend = some n → nameAfter (topName g.fs) n = true ∧ n.length ≤ INT32_MAX
  arrs : ArrsOk D g.arrs
  virtArr : g.virt = true → g.arrs ≠ []
  arrPend : g.virt = false → g.arrs ≠ [] → ∃ n, g.pend = some n

theorem toFields_ok (D : Nat) (l : List (Bytes × Value)) (acc : Fields) (h : FsOk D l)
    (hw : wfFields (topName l) acc = true) (hf : fitsF D acc = true) :
    wfFields none (toFields l acc) = true ∧ fitsF D (toFields l acc) = true := by
  induction l generalizing acc with
  | nil => exact ⟨by simpa [toFields, topName] using hw, by simpa [toFields] using hf⟩
  | cons x r ih =>
    obtain ⟨n, v⟩ := x
    obtain ⟨h1, h2, h3, h4, h5⟩ := h
    simp only [toFields]
    apply ih _ h5
    · simp only [wfFields, Bool.and_eq_true, decide_eq_true_eq]
      exact ⟨⟨⟨h1, h2⟩, h3⟩, by simpa [topName] using hw⟩
    · simp only [fitsF, Bool.and_eq_true]
      exact ⟨h4, hf⟩

theorem toElems_ok (D a : Nat) (l : List Value) (acc : Elems) (h : ElOk D a l)
    (hw : wfElems acc = true) (hf : fitsE D a acc = true) :
    wfElems (toElems l acc) = true ∧ fitsE D a (toElems l acc) = true := by
  induction l generalizing acc with
  | nil => exact ⟨by simpa [toElems] using hw, by simpa [toElems] using hf⟩
  | cons v r ih =>
    simp only [toElems]
    apply ih _ (fun x hx => h x (List.mem_cons_of_mem _ hx))
    · simp only [wfElems, Bool.and_eq_true]
      exact ⟨(h v List.mem_cons_self).1, hw⟩
    · simp only [fitsE, Bool.and_eq_true]
      exact ⟨(h v List.mem_cons_self).2, hf⟩

theorem closeArr_ok (D : Nat) (a : List Value) (as : List (List Value)) (h : ArrsOk D (a :: as)) :
    wfValue (.arr (toElems a .nil)) = true ∧ fits D (255 - as.length) (.arr (toElems a .nil)) = true ∧ ArrsOk D as := by
  obtain ⟨h1, h2, h3⟩ := h
  obtain ⟨hw, hf⟩ := toElems_ok D _ a .nil h2 rfl rfl
  refine ⟨hw, ?_, h3⟩
  rw [fits, Bool.and_eq_true, decide_eq_true_eq, Nat.sub_sub]
  exact ⟨by omega, hf⟩

/-- the object value a closed object frame becomes, seen from the level below (budget `D + 1`) -/
theorem closeObj_ok (D a : Nat) (g : Grp) (h : GrpOk D g) :
    wfValue (.obj (toFields g.fs .nil)) = true ∧ fits (D + 1) a (.obj (toFields g.fs .nil)) = true := by
  obtain ⟨hw, hf⟩ := toFields_ok D g.fs .nil h.fs (by simp [wfFields]) rfl
  refine ⟨hw, ?_⟩
  rw [fits, Bool.and_eq_true, decide_eq_true_eq, Nat.add_sub_cancel]
  exact ⟨by omega, hf⟩

theorem GrpOk_new (D : Nat) : GrpOk D newGrp :=
  ⟨trivial, fun n h => by simp [newGrp] at h, trivial, fun h => by simp [newGrp] at h, fun _ h => absurd rfl h⟩

theorem GrpOk_rootArr (D : Nat) : GrpOk D rootArrGrp :=
  ⟨trivial, fun n h => by simp [rootArrGrp] at h, ⟨by simp, fun v hv => by simp at hv, trivial⟩,
    fun _ => by simp [rootArrGrp], fun h => by simp [rootArrGrp] at h⟩

theorem GrpOk_addVal (D : Nat) (g : Grp) (v : Value) (h : GrpOk D g) (hp : g.arrs = [] → ∃ n, g.pend = some n)
    (hw : wfValue v = true) (hf : fits D (255 - g.arrs.length) v = true) : GrpOk D (addVal g v) := by
  unfold addVal
  cases ha : g.arrs with
  | cons a as =>
    have harr := h.arrs
    rw [ha] at harr hf
    obtain ⟨h1, h2, h3⟩ := harr
    refine ⟨h.fs, h.pend, ⟨h1, ?_, h3⟩, fun _ => by simp, fun hv _ => h.arrPend hv (by rw [ha]; simp)⟩
    intro x hx
    rcases List.mem_cons.mp hx with rfl | hx
    · exact ⟨hw, hf⟩
    · exact h2 x hx
  | nil =>
    obtain ⟨n, hn⟩ := hp ha
    rw [ha] at hf
    simp only [hn]
    have hpn := h.pend n hn
    refine ⟨⟨hpn.1, hpn.2, hw, by simpa using hf, h.fs⟩, fun m hm => by simp at hm, trivial,
      fun hv => absurd ha (h.virtArr hv), fun _ hne => absurd rfl hne⟩

theorem GrpOk_name (D : Nat) (g : Grp) (n : Bytes) (h : GrpOk D g) (ha : g.arrs = [])
    (hn : nameAfter (topName g.fs) n = true) (hl : n.length ≤ INT32_MAX) : GrpOk D { g with pend := some n } :=
  ⟨h.fs, fun m hm => by simp at hm; subst hm; exact ⟨hn, hl⟩, h.arrs, h.virtArr, fun _ hne => absurd ha hne⟩

theorem GrpOk_openArr (D : Nat) (g : Grp) (h : GrpOk D g) (hlen : g.arrs.length < 255)
    (hp : g.virt = false → ∃ n, g.pend = some n) : GrpOk D { g with arrs := [] :: g.arrs } :=
  ⟨h.fs, h.pend, ⟨by omega, fun v hv => by simp at hv, h.arrs⟩, fun _ => by simp, fun hv _ => hp hv⟩

theorem GrpOk_dropArr (D : Nat) (g : Grp) (a : List Value) (as : List (List Value)) (h : GrpOk D g) (ha : g.arrs = a :: as)
    (hv : g.virt = true → as ≠ []) : GrpOk D { g with arrs := as } := by
  have harr := h.arrs
  rw [ha] at harr
  exact ⟨h.fs, h.pend, harr.2.2, hv, fun hvf _ => h.arrPend hvf (by rw [ha]; simp)⟩

/-- the name the next field name of the level is compared with -/
def lastName (g : Grp) : Option Bytes :=
  match g.pend with
  | some n => some n
  | none => topName g.fs

theorem lastName_addVal (g : Grp) (v : Value) : lastName (addVal g v) = lastName g := by
  unfold addVal
  cases ha : g.arrs with
  | cons a as => rfl
  | nil =>
    cases hp : g.pend with
    | none => rfl
    | some n => simp [lastName, hp, topName]

end Binson
