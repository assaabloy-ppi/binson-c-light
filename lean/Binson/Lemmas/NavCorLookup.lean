/-
  Layer 4, corollaries: C07 — field lookups, in the words of the property text.
  Inside an object, `binson_parser_field_with_length` finds a name iff a field with exactly those
  bytes (full length, any byte values) lies at or after the cursor; a hit makes that field current,
  a miss raises no error and passes only fields with smaller names; lookups in ascending order of
  names find exactly the names that are present.
-/
import Binson.Lemmas.NavCorNames
namespace Binson

theorem Agree.objTop {p : Parser} {c : Cursor} (h : Agree p c) (hin : c.inObject = true) :
    ∃ pv fs Ls pend, Run p c ⟨pv, some fs, []⟩ Ls pend := by
  cases h with
  | start root v hc hF hmd hwf => subst hc; cases hin
  | done hf hd => unfold Cursor.inObject at hin; rw [hf] at hin; cases hin
  | run L Ls pend h =>
    obtain ⟨pv, b, arrs⟩ := L
    cases arrs with
    | cons xs ar =>
      have hfr := h.frames
      rw [flat_arr] at hfr
      rw [Cursor.inObject_of_frames hfr] at hin
      cases hin
    | nil =>
      obtain ⟨fs, hb⟩ := h.top_obj rfl
      simp only at hb
      subst hb
      exact ⟨pv, fs, Ls, pend, h⟩

theorem Agree.names_asc {p : Parser} {c : Cursor} (h : Agree p c) (hin : c.inObject = true) :
    ascNames c.namesAhead = true := by
  obtain ⟨pv, fs, Ls, pend, hr⟩ := h.objTop hin
  have hfr := hr.frames
  rw [flat_obj] at hfr
  rw [Cursor.namesAhead_of_frames hfr]
  show ascNames ((annotateF _ fs).map nameOf) = true
  rw [navc_names_annotateF]
  exact navc_asc_of_ascF fs pv (ascF_of_wfFields pv fs (hr.top.base fs rfl).1)

theorem Cursor.frames_ne_of_inObject {c : Cursor} (h : c.inObject = true) : c.frames ≠ [] := by
  obtain ⟨f, fs, hf, _⟩ := Cursor.frames_of_inObject h
  rw [hf]; exact List.cons_ne_nil _ _

theorem machNav_field (p : Parser) (nm : Bytes) : machNav p (.field nm) = ((field p nm).1, (field p nm).2, none) := rfl

section
variable {g : Parser} {root : Root} {v : Value} {p : Parser} {c : Cursor}

theorem lookup_reachable (h : Reachable g root v p c) (hin : c.inObject = true) (nm : Bytes) :
    Reachable g root v (field p nm).1 (c.step (.field nm)).1 ∧ (c.step (.field nm)).1.inObject = true := by
  have hasc := (reachable_agree h).names_asc hin
  exact ⟨reachable_step h (.field nm) hin,
    by rw [(Cursor.step_field_names (Cursor.frames_ne_of_inObject hin) hasc nm).2.2.2]; exact hin⟩

theorem lookup_ok_eq (h : Reachable g root v p c) (hin : c.inObject = true) (nm : Bytes) :
    (field p nm).2 = (c.step (.field nm)).2.ok :=
  (reachable_obs h (.field nm) hin).1

/-- a lookup succeeds iff a field with exactly these bytes as its name lies at or after
    the cursor (any byte string: embedded 0x00, bytes ≥ 0x80; compared in full length) -/
theorem lookup_iff (h : Reachable g root v p c) (hin : c.inObject = true) (nm : Bytes) :
    (field p nm).2 = true ↔ nm ∈ c.namesAhead := by
  rw [lookup_ok_eq h hin]
  exact (Cursor.step_field_names (Cursor.frames_ne_of_inObject hin) ((reachable_agree h).names_asc hin) nm).1

theorem lookup_no_error (h : Reachable g root v p c) (hin : c.inObject = true) (nm : Bytes) :
    (field p nm).1.err = .none ∧ (field p nm).1.fault = false :=
  ⟨(reachable_obs h (.field nm) hin).2.2.1, (reachable_obs h (.field nm) hin).2.2.2.1⟩

theorem lookup_names_after (h : Reachable g root v p c) (hin : c.inObject = true) (nm : Bytes) :
    (c.step (.field nm)).1.namesAhead = c.namesAhead.filter (fun x => bytesLt nm x) :=
  (Cursor.step_field_names (Cursor.frames_ne_of_inObject hin) ((reachable_agree h).names_asc hin) nm).2.1

/-- any series of lookups in strictly ascending order of names finds exactly the names
    that are present, whatever absent names are asked for in between.
    (Strictness is needed: `#eval` on `{"a":..}` shows that looking up "a" twice gives
    `[true, false]` — the first hit consumes the field.) -/
theorem lookup_series : ∀ (nms : List Bytes) {p : Parser} {c : Cursor}, Reachable g root v p c → c.inObject = true →
    ascNames nms = true → (lookups p nms).2 = nms.map (fun nm => decide (nm ∈ c.namesAhead))
  | [], _, _, _, _, _ => rfl
  | nm :: r, p, c, h, hin, hasc => by
    obtain ⟨hgt, hr⟩ := navc_asc_cons r nm hasc
    obtain ⟨r1, r2⟩ := lookup_reachable h hin nm
    have ih := lookup_series r r1 r2 hr
    have e0 : (lookups p (nm :: r)).2 = (field p nm).2 :: (lookups (field p nm).1 r).2 := rfl
    rw [e0, ih, List.map_cons]
    congr 1
    · rw [Bool.eq_iff_iff, decide_eq_true_iff]
      exact lookup_iff h hin nm
    · apply List.map_congr_left
      intro x hx
      rw [lookup_names_after h hin nm]
      exact decide_eq_decide.mpr (navc_mem_filter_gt _ (hgt x hx))

/-- `binson_parser_field_ensure_with_length`: true iff the field is found and has the
    requested type; found with another type: false and `BINSON_ERROR_WRONG_TYPE`; not found: false
    and no error -/
theorem lookup_ensure (h : Reachable g root v p c) (hin : c.inObject = true) (nm : Bytes) (t : Ty) :
    ((fieldEnsure p nm t).2 = true ↔ ∃ n, c.fieldAhead nm = some n ∧ n.item.ty = t) ∧
    (∀ n, c.fieldAhead nm = some n → n.item.ty = t →
      fieldEnsure p nm t = ((field p nm).1, true) ∧ (fieldEnsure p nm t).1.err = .none) ∧
    (∀ n, c.fieldAhead nm = some n → n.item.ty ≠ t →
      (fieldEnsure p nm t).2 = false ∧ (fieldEnsure p nm t).1.err = .wrongType) ∧
    (nm ∉ c.namesAhead → fieldEnsure p nm t = ((field p nm).1, false) ∧ (fieldEnsure p nm t).1.err = .none) := by
  have hne := Cursor.frames_ne_of_inObject hin
  have hasc := (reachable_agree h).names_asc hin
  obtain ⟨s1, s2, s3⟩ := Cursor.step_field_cur hne hasc nm
  have hok := lookup_ok_eq h hin nm
  have herr := (lookup_no_error h hin nm).1
  have hfe : fieldEnsure p nm t = (if !(field p nm).2 then ((field p nm).1, false) else
      if t = getType (field p nm).1 then ((field p nm).1, true) else ({ (field p nm).1 with err := .wrongType }, false)) := rfl
  have hsome : ∀ n, c.fieldAhead nm = some n → (field p nm).2 = true ∧ getType (field p nm).1 = n.item.ty := by
    intro n hx
    rw [hx] at s2 s3
    have hit := (reachable_obs h (.field nm) hin).2.2.2.2.2.2 n.item s2
    rw [machNav_field] at hit
    exact ⟨by rw [hok, s3]; rfl, hit.ty⟩
  have hA : ∀ n, c.fieldAhead nm = some n → n.item.ty = t →
      fieldEnsure p nm t = ((field p nm).1, true) ∧ (fieldEnsure p nm t).1.err = .none := by
    intro n hx ht
    obtain ⟨a, b⟩ := hsome n hx
    have e : fieldEnsure p nm t = ((field p nm).1, true) := by
      rw [hfe, a, b, ht]; simp
    exact ⟨e, by rw [e]; exact herr⟩
  have hB : ∀ n, c.fieldAhead nm = some n → n.item.ty ≠ t →
      (fieldEnsure p nm t).2 = false ∧ (fieldEnsure p nm t).1.err = .wrongType := by
    intro n hx ht
    obtain ⟨a, b⟩ := hsome n hx
    have e : fieldEnsure p nm t = ({ (field p nm).1 with err := .wrongType }, false) := by
      rw [hfe, a, b]
      simp only [Bool.not_true, Bool.false_eq_true, if_false]
      rw [if_neg (fun e => ht e.symm)]
    rw [e]; exact ⟨rfl, rfl⟩
  have hC : nm ∉ c.namesAhead → fieldEnsure p nm t = ((field p nm).1, false) ∧ (fieldEnsure p nm t).1.err = .none := by
    intro hn
    have a : (field p nm).2 = false := by
      cases hf : (field p nm).2 with
      | false => rfl
      | true => exact absurd ((lookup_iff h hin nm).mp hf) hn
    have e : fieldEnsure p nm t = ((field p nm).1, false) := by rw [hfe, a]; simp
    exact ⟨e, by rw [e]; exact herr⟩
  refine ⟨⟨?_, fun ⟨n, hx, ht⟩ => by rw [(hA n hx ht).1]⟩, hA, hB, hC⟩
  intro ht
  cases hx : c.fieldAhead nm with
  | some n =>
    by_cases hty : n.item.ty = t
    · exact ⟨n, rfl, hty⟩
    · rw [(hB n hx hty).1] at ht; cases ht
  | none =>
    have hn : nm ∉ c.namesAhead := by
      intro hm
      have := (Cursor.fieldAhead_isSome c nm).mpr hm
      rw [hx] at this; cases this
    rw [(hC hn).1] at ht; cases ht

end

end Binson
