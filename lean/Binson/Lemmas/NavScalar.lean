/-
  Layer 4: a scalar value AT the originating level: consumed in one iteration, stored in
  the level exactly as the annotated tree says; the loop goes on or stops as the scan word says.
-/
import Binson.Lemmas.NavSkip
import Binson.Lemmas.NavSpec
namespace Binson

/-- the scan word after a value token at the originating level -/
def scanAfter (L : Level) (s : Option Scan) : Option Scan := if L.flags.inArray then clear s .value else s

/-- the level holds the scalar `v` whose encoding starts at `off` -/
structure ScalarOk (p : Parser) (L : Level) (v : Value) (off : Nat) : Prop where
  ty : L.ctype = (annotate none off v).item.ty
  val : L.val = (annotate none off v).item.val
  span : ∀ s, (annotate none off v).item.val = .span s →
    p.slice s = (annotate none off v).item.payload ∧ s.off + s.len ≤ p.size

theorem stepRes_keeps {st st' : LoopSt} {oa od : Nat} {du : Nat} {scan' : Option Scan} {NL : Level} {ev' : List Event}
    (hO : AtOrig st oa od)
    (r : StepRes st st' .none du scan' st.p.depth (fun i => if i = st.p.lvlIdx then NL else st.p.getLvl i) ev')
    (had : NL.ad = (st.p.getLvl st.p.lvlIdx).ad) :
    AtOrig st' oa od ∧ Kept st st' ∧ st'.p.getLvl st.p.lvlIdx = NL := by
  have hL : st'.p.getLvl st.p.lvlIdx = NL := (r.lvl _).trans (if_pos rfl)
  obtain ⟨a, b⟩ := hO.back r.shape r.err r.depth r.frame (fun i h => (r.lvl i).trans (if_neg (Nat.ne_of_lt h)))
    (fun i h => by
      rw [r.lvl, if_neg (by have := hO.d1; have := Parser.lvlIdx_of_pos hO.d1; omega)]; exact hO.zeros i h)
    (by rw [hL, had])
  exact ⟨a, b, hL⟩

theorem orig_scalar_tok {st : LoopSt} {sn : Option (List UInt8)} {oa od : Nat} (hO : AtOrig st oa od)
    (tok : Tok) (span : Span) (bc : Nat) (q : Parser) (hq : q = { st.p with used := st.p.used + bc })
    (hcl : classify st.p st.bc = ⟨tok, span, bc, q⟩) (hsp : span.off + span.len ≤ st.p.size)
    (hsc : tok.isScalar = true)
    (hint : tok = .integer → intBoundsOk (parseIntVal st.p span) span.len = true)
    (hctx : ValCtx (st.p.getLvl st.p.lvlIdx)) :
    ∃ st', iter st sn oa od = (st', proceed (scanAfter (st.p.getLvl st.p.lvlIdx) st.scan) false) ∧
      StepRes st st' .none bc (scanAfter (st.p.getLvl st.p.lvlIdx) st.scan) st.p.depth
        (fun i => if i = st.p.lvlIdx then scalarStore tok (valLevel (st.p.getLvl st.p.lvlIdx)) span st.p else st.p.getLvl i)
        ((tok, scalarStore tok (valLevel (st.p.getLvl st.p.lvlIdx)) span st.p) :: st.ev) := by
  have hval : tok.isValue = true := by cases tok <;> simp_all [Tok.isScalar, Tok.isValue]
  rcases hctx with ⟨hf, _⟩ | ⟨hf, _⟩
  · have hob := objBlock_val_obj (lv := st.p.getLvl st.p.lvlIdx) (tok := tok) hf hval
    have hab : arrBlock { st.p.getLvl st.p.lvlIdx with flags := .expField } tok
        (decide (oa = ({ st.p.getLvl st.p.lvlIdx with flags := .expField } : Level).ad ∧ od = st.p.depth)) st.scan =
        ({ st.p.getLvl st.p.lvlIdx with flags := .expField }, st.scan) := arrBlock_notArr _ _ _ rfl
    have h2 : scanAfter (st.p.getLvl st.p.lvlIdx) st.scan = st.scan := by simp [scanAfter, hf, Flags.inArray]
    rw [valLevel_obj hf, h2]
    exact iter_scalar_gen hO.shape hO.err tok span bc q hq hcl hsp hsc hint _ _ _ hob hab
  · have hina := Flags.inArray_of_arr hf
    have hob := objBlock_arr (lv := st.p.getLvl st.p.lvlIdx) (tok := tok) hf
    have hd : decide (oa = (st.p.getLvl st.p.lvlIdx).ad ∧ od = st.p.depth) = true := by
      simp [← hO.oa, ← hO.od]
    have hab : arrBlock (st.p.getLvl st.p.lvlIdx) tok (decide (oa = (st.p.getLvl st.p.lvlIdx).ad ∧ od = st.p.depth)) st.scan =
        (st.p.getLvl st.p.lvlIdx, clear st.scan .value) := by
      rw [hd]; exact arrBlock_orig_scalar _ hina hsc
    have h2 : scanAfter (st.p.getLvl st.p.lvlIdx) st.scan = clear st.scan .value := by simp [scanAfter, hina]
    rw [valLevel_arr hf, h2]
    exact iter_scalar_gen hO.shape hO.err tok span bc q hq hcl hsp hsc hint _ _ _ hob hab

theorem hdr_off (off n : Nat) : off + hdrLen n = off + 1 + intWidth (n : Int) := by
  unfold hdrLen; omega

/-- the token of a scalar value, from the bytes: its classification, and that what `caseScalar` stores for it in a
    level is what the annotated tree says -/
theorem scalar_token (v : Value) (hsv : v.isContainer = false) {p : Parser} (hsh : Shape p) (he : p.err = .none) (bc0 : Nat)
    (rest : Bytes) (hrem : p.rem = encode v ++ rest) (hwf : wfValue v = true) :
    ∃ tok span bc q, q = { p with used := p.used + bc } ∧ classify p bc0 = ⟨tok, span, bc, q⟩ ∧ (encode v).length = bc ∧
      tok.isScalar = true ∧ span.off + span.len ≤ p.size ∧
      (tok = .integer → intBoundsOk (parseIntVal p span) span.len = true) ∧
      ∀ L : Level, ScalarOk p (scalarStore tok L span p) v p.used := by
  have hfit := rem_fit hsh hrem
  cases v with
  | arr xs => cases hsv
  | obj fs => cases hsv
  | bool b =>
    have hrem' : p.rem = (if b then 0x44 else 0x45) :: rest := by simpa [encode] using hrem
    obtain ⟨c1, c2, _⟩ := classify_bool hsh he bc0 rest b hrem'
    have hl : (encode (.bool b)).length = 1 := by simp [encode]
    rw [hl] at hfit
    exact ⟨.boolean, ⟨p.used, 1⟩, 1, _, rfl, c1, hl, rfl, hfit, (fun h => nomatch h), fun L =>
      ⟨rfl, by simp only [scalarStore, annotate, Node.item]; rw [c2 p rfl], fun s h => by simp [annotate, Node.item] at h⟩⟩
  | int i =>
    have hi : int64Min ≤ i ∧ i ≤ int64Max := by simpa [wfValue] using hwf
    have hrem' : p.rem = encInt 0x10 i ++ rest := by simpa [encode] using hrem
    obtain ⟨c1, c2, c3, _⟩ := classify_int hsh he bc0 rest i hi hrem'
    have hl : (encode (.int i)).length = 1 + intWidth i := by simp [encode, encInt_length]
    rw [hl] at hfit
    exact ⟨.integer, ⟨p.used + 1, intWidth i⟩, 1 + intWidth i, _, by simp only [Nat.add_assoc], c1, hl, rfl, by simp only; omega,
      (fun _ => by rw [c2 p rfl]; exact c3), fun L =>
      ⟨rfl, by simp only [scalarStore, annotate, Node.item]; rw [c2 p rfl], fun s h => by simp [annotate, Node.item] at h⟩⟩
  | dbl bits =>
    have hrem' : p.rem = 0x46 :: (leBytes 8 bits.toNat ++ rest) := by simpa [encode] using hrem
    obtain ⟨c1, c2, _⟩ := classify_dbl hsh he bc0 rest bits hrem'
    have hl : (encode (.dbl bits)).length = 9 := by simp [encode]
    rw [hl] at hfit
    exact ⟨.double, ⟨p.used + 1, 8⟩, 9, _, rfl, c1, hl, rfl, by simp only; omega, (fun h => nomatch h), fun L =>
      ⟨rfl, by simp only [scalarStore, annotate, Node.item]; rw [c2 p rfl], fun s h => by simp [annotate, Node.item] at h⟩⟩
  | str s =>
    have hs : s.length ≤ INT32_MAX := by simpa [wfValue] using hwf
    have hrem' : p.rem = encStr 0x14 s ++ rest := by simpa [encode] using hrem
    obtain ⟨c1, c2, _⟩ := classify_str hsh he bc0 rest s hs hrem'
    have hl : (encode (.str s)).length = 1 + intWidth (s.length : Int) + s.length := by simp [encode, encStr_length]
    rw [hl] at hfit
    exact ⟨.string, ⟨p.used + 1 + intWidth (s.length : Int), s.length⟩, _, _, by simp only [Nat.add_assoc], c1, hl, rfl,
      by simp only; omega, (fun h => nomatch h), fun L =>
      ⟨rfl, by simp only [scalarStore, annotate, Node.item, hdr_off], fun sp h => by
        simp only [annotate, Node.item, hdr_off, Val.span.injEq] at h
        subst h
        exact ⟨c2 p rfl, by simp only; omega⟩⟩⟩
  | bytes s =>
    have hs : s.length ≤ INT32_MAX := by simpa [wfValue] using hwf
    have hrem' : p.rem = encStr 0x18 s ++ rest := by simpa [encode] using hrem
    obtain ⟨c1, c2, _⟩ := classify_bytes hsh he bc0 rest s hs hrem'
    have hl : (encode (.bytes s)).length = 1 + intWidth (s.length : Int) + s.length := by simp [encode, encStr_length]
    rw [hl] at hfit
    exact ⟨.bytes, ⟨p.used + 1 + intWidth (s.length : Int), s.length⟩, _, _, by simp only [Nat.add_assoc], c1, hl, rfl,
      by simp only; omega, (fun h => nomatch h), fun L =>
      ⟨rfl, by simp only [scalarStore, annotate, Node.item, hdr_off], fun sp h => by
        simp only [annotate, Node.item, hdr_off, Val.span.injEq] at h
        subst h
        exact ⟨c2 p rfl, by simp only; omega⟩⟩⟩

theorem orig_scalar (v : Value) (hsv : v.isContainer = false) {st : LoopSt} {sn : Option (List UInt8)} {oa od : Nat}
    (hO : AtOrig st oa od) (rest : Bytes) (hrem : st.p.rem = encode v ++ rest) (hwf : wfValue v = true)
    (hctx : ValCtx (st.p.getLvl st.p.lvlIdx)) :
    ∃ st', iter st sn oa od = (st', proceed (scanAfter (st.p.getLvl st.p.lvlIdx) st.scan) false) ∧ st'.p.rem = rest ∧
      st'.scan = scanAfter (st.p.getLvl st.p.lvlIdx) st.scan ∧ AtOrig st' oa od ∧ Kept st st' ∧
      (st'.p.getLvl st.p.lvlIdx).name = (st.p.getLvl st.p.lvlIdx).name ∧
      (st'.p.getLvl st.p.lvlIdx).flags = afterFlags (st.p.getLvl st.p.lvlIdx) false ∧
      ScalarOk st.p (st'.p.getLvl st.p.lvlIdx) v st.p.used := by
  obtain ⟨tok, span, bc, q, hq, hcl, hlen, hsc, hsp, hint, hok⟩ := scalar_token v hsv hO.shape hO.err st.bc rest hrem hwf
  obtain ⟨st', hi, r⟩ := orig_scalar_tok (sn := sn) hO tok span bc q hq hcl hsp hsc hint hctx
  obtain ⟨n1, n2, n3⟩ := scalarStore_fields tok (valLevel (st.p.getLvl st.p.lvlIdx)) span st.p
  obtain ⟨k1, k2, k3⟩ := stepRes_keeps hO r n3
  exact ⟨st', hi, rem_of_frame r.frame.2.1 r.used hO.shape hrem hlen, r.scan, k1, k2, by rw [k3, n1]; rfl, by rw [k3, n2]; rfl,
    by rw [k3]; exact hok _⟩

end Binson
