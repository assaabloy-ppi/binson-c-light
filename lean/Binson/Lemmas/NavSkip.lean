/-
  Layer 4: AT the originating level, a container value is skipped whole (entered by the
  at-level BEGIN lemma, passed through by `pass_fields`/`pass_elems`, closed by the below-level
  END lemma) in every continuing scan mode.
-/
import Binson.Lemmas.NavRun
namespace Binson

theorem cont_value : Cont (some Scan.value) := Or.inr (Or.inr (Or.inl rfl))
theorem cont_leaveObj : Cont (some Scan.leaveObj) := Or.inr (Or.inl rfl)
theorem cont_leaveArr : Cont (some Scan.leaveArr) := Or.inr (Or.inr (Or.inr rfl))

/-- the loop state is AT the level `(od, oa)` the call started at -/
structure AtOrig (st : LoopSt) (oa od : Nat) : Prop where
  shape : Shape st.p
  err : st.p.err = .none
  d1 : 1 ≤ st.p.depth
  od : od = st.p.depth
  oa : oa = (st.p.getLvl st.p.lvlIdx).ad
  zeros : ∀ i, st.p.depth ≤ i → st.p.getLvl i = Level.zero
  md255 : st.p.maxDepth ≤ 255
  rootArr : st.p.ptype = 2 → st.p.depth = 1 → 1 ≤ (st.p.getLvl st.p.lvlIdx).ad

/-- what a run that comes back to the originating level leaves alone -/
structure Kept (st st' : LoopSt) : Prop where
  depth : st'.p.depth = st.p.depth
  frame : st.p.Frame st'.p
  lower : ∀ i, i < st.p.lvlIdx → st'.p.getLvl i = st.p.getLvl i
  ad : (st'.p.getLvl st.p.lvlIdx).ad = (st.p.getLvl st.p.lvlIdx).ad

theorem Kept.refl (st : LoopSt) : Kept st st := ⟨rfl, Parser.Frame.refl _, fun _ _ => rfl, rfl⟩

theorem Kept.lvlIdx {st st' : LoopSt} (h : Kept st st') : st'.p.lvlIdx = st.p.lvlIdx := by
  unfold Parser.lvlIdx; rw [h.depth]

theorem Kept.trans {a b c : LoopSt} (h1 : Kept a b) (h2 : Kept b c) : Kept a c := by
  have hi := h1.lvlIdx
  refine ⟨h2.depth.trans h1.depth, h1.frame.trans h2.frame, ?_, ?_⟩
  · intro i hlt; rw [h2.lower i (by rw [hi]; exact hlt), h1.lower i hlt]
  · have := h2.ad; rw [hi] at this; rw [this, h1.ad]

theorem AtOrig.back {st st' : LoopSt} {oa od : Nat} (hO : AtOrig st oa od) (hs : Shape st'.p) (he : st'.p.err = .none)
    (hd : st'.p.depth = st.p.depth) (fr : st.p.Frame st'.p)
    (hlow : ∀ i, i < st.p.lvlIdx → st'.p.getLvl i = st.p.getLvl i) (hz : ∀ i, st.p.depth ≤ i → st'.p.getLvl i = Level.zero)
    (had : (st'.p.getLvl st.p.lvlIdx).ad = (st.p.getLvl st.p.lvlIdx).ad) : AtOrig st' oa od ∧ Kept st st' := by
  have hi : st'.p.lvlIdx = st.p.lvlIdx := by unfold Parser.lvlIdx; rw [hd]
  exact ⟨⟨hs, he, by rw [hd]; exact hO.d1, by rw [hd]; exact hO.od, by rw [hi, had]; exact hO.oa, fun i h => hz i (by rw [hd] at h; exact h),
    by rw [fr.2.2.1]; exact hO.md255, fun h1 h2 => by
      rw [hi, had]; exact hO.rootArr (by rw [← fr.2.2.2.1]; exact h1) (by rw [← hd]; exact h2)⟩,
    ⟨hd, fr, hlow, had⟩⟩

theorem arrBlock_orig_begin1 {lv : Level} {tok : Tok} (s : Option Scan) (hf : lv.flags = .arr1)
    (ht : tok = .objBegin ∨ tok = .arrBegin) :
    arrBlock lv tok true s = ({ lv with flags := .arr2 }, clear s .value) := by
  unfold arrBlock; simp [hf, Flags.inArray, ht]

theorem arrBlock_orig_begin2 {lv : Level} {tok : Tok} (s : Option Scan) (hf : lv.flags = .arr2)
    (ht : tok = .objBegin ∨ tok = .arrBegin) :
    arrBlock lv tok true s = ({ lv with flags := .arr1 }, s) := by
  unfold arrBlock; simp [hf, Flags.inArray, ht]

theorem arrBlock_orig_scalar {lv : Level} {tok : Tok} (s : Option Scan) (hina : lv.flags.inArray = true)
    (ht : tok.isScalar = true) :
    arrBlock lv tok true s = (lv, clear s .value) := by
  unfold arrBlock
  have : ¬ (tok = .objBegin ∨ tok = .arrBegin) := by
    intro h; rcases h with h | h <;> rw [h] at ht <;> cases ht
  simp [hina, this]

theorem clear_value_of_ne {s : Option Scan} (h : s ≠ some .value) : clear s .value = s := by
  unfold clear; rw [if_neg h]

/-- what the two flag blocks make of a BEGIN token in value position at the originating level: the field is
    complete / the array toggle flips, and its first half clears the VALUE bit -/
theorem blocks_begin_orig {L : Level} {tok : Tok} {oa od d : Nat} (ht : tok = .objBegin ∨ tok = .arrBegin)
    (hctx : ValCtx L) (hoa : oa = L.ad) (hod : od = d) (ct : Ty) (scan : Option Scan) :
    ∃ lv1 lv2, objBlock { L with ctype := ct } tok = some (lv1, tok) ∧
      arrBlock lv1 tok (decide (oa = lv1.ad ∧ od = d)) scan = (lv2, if L.flags = .arr1 then clear scan .value else scan) ∧
      lv2.ad = L.ad ∧ lv2.name = L.name ∧ lv2.ctype = ct ∧
      (L.flags = .expValue → lv2.flags = .expField) ∧ (L.flags = .arr2 → lv2.flags = .arr1) ∧ (L.flags = .arr1 → lv2.flags = .arr2) := by
  have hv : tok.isValue = true := by rcases ht with h | h <;> rw [h] <;> rfl
  have hd : decide (oa = ({ L with ctype := ct } : Level).ad ∧ od = d) = true := by simp [hoa, hod]
  rcases hctx with ⟨hf, _⟩ | ⟨hf | hf, _⟩
  · refine ⟨{ { L with ctype := ct } with flags := .expField }, { { L with ctype := ct } with flags := .expField },
      objBlock_val_obj (lv := { L with ctype := ct }) hf hv, ?_, rfl, rfl, rfl, fun _ => rfl, ?_, ?_⟩
    · rw [hf, if_neg (by decide)]; exact arrBlock_notArr _ _ _ rfl
    · intro h; rw [hf] at h; cases h
    · intro h; rw [hf] at h; cases h
  · refine ⟨{ L with ctype := ct }, { { L with ctype := ct } with flags := .arr2 }, objBlock_arr (lv := { L with ctype := ct }) (Or.inl hf), ?_,
      rfl, rfl, rfl, ?_, ?_, fun _ => rfl⟩
    · rw [hd, if_pos hf]; exact arrBlock_orig_begin1 (lv := { L with ctype := ct }) _ hf ht
    · intro h; rw [hf] at h; cases h
    · intro h; rw [hf] at h; cases h
  · refine ⟨{ L with ctype := ct }, { { L with ctype := ct } with flags := .arr1 }, objBlock_arr (lv := { L with ctype := ct }) (Or.inr hf), ?_,
      rfl, rfl, rfl, ?_, fun _ => rfl, ?_⟩
    · rw [hd, if_neg (by rw [hf]; decide)]; exact arrBlock_orig_begin2 (lv := { L with ctype := ct }) _ hf ht
    · intro h; rw [hf] at h; cases h
    · intro h; rw [hf] at h; cases h

def SkipFlags (L L' : Level) : Prop :=
  (L.flags = .expValue → L'.flags = .expField) ∧ (L.flags = .arr2 → L'.flags = .arr1) ∧
  (L.flags = .arr1 → L'.flags = .arr1 ∨ L'.flags = .arr2)

/-- a container value in front of the cursor AT the originating level is skipped whole, in every continuing mode
    (VALUE mode only once the array toggle is past its first half) -/
theorem skip_container (v : Value) (hc : v.isContainer = true) {st : LoopSt} {sn : Option (List UInt8)} {oa od : Nat}
    (hO : AtOrig st oa od) (hcont : Cont st.scan) (rest : Bytes) (hrem : st.p.rem = encode v ++ rest)
    (hwf : wfValue v = true)
    (hfit : fits (st.p.maxDepth - st.p.depth) (255 - (st.p.getLvl st.p.lvlIdx).ad) v = true)
    (hctx : ValCtx (st.p.getLvl st.p.lvlIdx)) (hnv : (st.p.getLvl st.p.lvlIdx).flags = .arr1 → st.scan ≠ some .value) :
    ∃ st', Steps sn oa od st st' ∧ st'.p.rem = rest ∧ AtOrig st' oa od ∧ st'.scan = st.scan ∧ Kept st st' ∧
      (st'.p.getLvl st.p.lvlIdx).name = (st.p.getLvl st.p.lvlIdx).name ∧
      SkipFlags (st.p.getLvl st.p.lvlIdx) (st'.p.getLvl st.p.lvlIdx) := by
  have hsh := hO.shape
  have hd1 := hO.d1
  have hidx : st.p.lvlIdx = st.p.depth - 1 := Parser.lvlIdx_of_pos hd1
  have hsc : (if (st.p.getLvl st.p.lvlIdx).flags = .arr1 then clear st.scan .value else st.scan) = st.scan := by
    split
    · exact clear_value_of_ne (hnv ‹_›)
    · rfl
  cases v with
  | obj fs =>
    have hrem' : st.p.rem = 0x40 :: (encFields fs ++ 0x41 :: rest) := by simpa [encode] using hrem
    have hfit' : (1 ≤ st.p.maxDepth - st.p.depth) ∧ fitsF (st.p.maxDepth - st.p.depth - 1) fs = true := by
      simpa [fits] using hfit
    -- `{`: a fresh entry above the level
    obtain ⟨lv1, lv2, hob, hab, b1, b2, _, b5, b6, b7⟩ :=
      blocks_begin_orig (tok := .objBegin) (d := st.p.depth) (Or.inl rfl) hctx hO.oa hO.od .object st.scan
    rw [hsc] at hab
    obtain ⟨st1, i1, hr1, r1⟩ := iter_objBegin_entered (sn := sn) hsh hO.err _ hrem' lv1 lv2 st.scan hob hab hcont.has_objBegin
      ⟨by have := hO.md255; omega, by omega⟩
    rw [if_neg (by omega), hO.zeros _ (Nat.le_refl _), hcont.clear_enterObj] at r1
    rw [hcont.clear_enterObj, hcont.proceed_eq] at i1
    have hi1 : st1.p.lvlIdx = st.p.depth := by unfold Parser.lvlIdx; rw [r1.depth]; simp
    have hl1 : st1.p.getLvl st1.p.lvlIdx = freshObjLevel := by rw [hi1, r1.lvl, if_pos rfl]; rfl
    have hD1 : Deep st1 oa od := by
      refine Deep.ofStep hcont hO.md255 r1 (Nat.le_add_left 1 _) (Or.inl (by rw [hO.od]; omega)) (fun i hi => ?_) (fun _ h => by omega)
      rw [if_neg (by omega), if_neg (by omega)]; exact hO.zeros i (by omega)
    obtain ⟨st2, i2, r2, p2⟩ := pass_fields fs 0 st1 sn oa od (0x41 :: rest) hD1 hr1
      (by unfold prevName; rw [hl1]; simpa [wfValue, freshObjLevel, Level.zero] using hwf)
      (by rw [hl1]; rfl) (by rw [hl1]; rfl)
      (by rw [r1.depth, r1.frame.2.2.1, show st.p.maxDepth - (st.p.depth + 1) = st.p.maxDepth - st.p.depth - 1 by omega]; exact hfit'.2)
    obtain ⟨st3, i3, hr3, m3, d3, z3⟩ := obj_closed (sn := sn) hD1 p2 r2 (by rw [r1.depth]; omega) (by rw [r1.depth, hO.od]; omega)
    rw [r1.depth, Nat.add_sub_cancel] at d3 z3
    rw [hi1] at m3
    have hlow : ∀ i, i < st.p.depth → st3.p.getLvl i = if i = st.p.lvlIdx then lv2 else st.p.getLvl i := fun i hi => by
      rw [m3.lower i hi, r1.lvl, if_neg (Nat.ne_of_lt hi)]
    have hL3 : st3.p.getLvl st.p.lvlIdx = lv2 := by rw [hlow _ (by omega), if_pos rfl]
    obtain ⟨hO3, hK⟩ := hO.back m3.shape m3.err d3 (r1.frame.trans m3.frame)
      (fun i hi => by rw [hlow i (by omega), if_neg (Nat.ne_of_lt hi)]) z3 (by rw [hL3, b1])
    exact ⟨st3, (Steps.one i1).trans ((Steps.ofPass i2).trans (Steps.one i3)), hr3, hO3, by rw [m3.scan, r1.scan], hK,
      by rw [hL3, b2], by rw [hL3]; exact ⟨b5, b6, fun h => Or.inr (b7 h)⟩⟩
  | arr xs =>
    have hrem' : st.p.rem = 0x42 :: (encElems xs ++ 0x43 :: rest) := by simpa [encode] using hrem
    have hfit' : (1 ≤ 255 - (st.p.getLvl st.p.lvlIdx).ad) ∧
        fitsE (st.p.maxDepth - st.p.depth) (255 - (st.p.getLvl st.p.lvlIdx).ad - 1) xs = true := by
      simpa [fits] using hfit
    -- `[`: one array more in the level
    obtain ⟨lv1, lv2, hob, hab, b1, b2, _⟩ :=
      blocks_begin_orig (tok := .arrBegin) (d := st.p.depth) (Or.inr rfl) hctx hO.oa hO.od .array st.scan
    rw [hsc] at hab
    obtain ⟨st1, i1, hr1, r1⟩ := iter_arrBegin_entered (sn := sn) hsh hO.err _ hrem' lv1 lv2 st.scan hob hab (by rw [b1]; omega)
      hcont.has_arrBegin
    rw [hcont.clear_enterArr] at i1 r1
    rw [hcont.proceed_eq] at i1
    have hi1 : st1.p.lvlIdx = st.p.lvlIdx := by unfold Parser.lvlIdx; rw [r1.depth]
    have hl1 : st1.p.getLvl st1.p.lvlIdx = { lv2 with flags := .arr1, ad := lv2.ad + 1 } := by rw [hi1, r1.lvl, if_pos rfl]
    have hl1ad : (st1.p.getLvl st1.p.lvlIdx).ad = (st.p.getLvl st.p.lvlIdx).ad + 1 := by rw [hl1]; simp only [b1]
    have hD1 : Deep st1 oa od := by
      refine Deep.ofStep hcont hO.md255 r1 hd1 (Or.inr ⟨hO.od, ?_⟩) (fun i hi => ?_) (fun _ _ => ?_)
      · rw [← hidx, if_pos rfl]; show oa < lv2.ad + 1; rw [b1, hO.oa]; exact Nat.lt_succ_self _
      · rw [if_neg (by omega)]; exact hO.zeros i hi
      · rw [← hidx, if_pos rfl]; exact Nat.le_add_left 1 _
    obtain ⟨st2, i2, r2, p2⟩ := pass_elems xs 0 st1 sn oa od (0x43 :: rest) hD1 hr1 (by simpa [wfValue] using hwf)
      ⟨by rw [hl1]; exact Or.inl rfl, by rw [hl1ad]; omega⟩
      (by rw [r1.depth, r1.frame.2.2.1, hl1ad,
        show 255 - ((st.p.getLvl st.p.lvlIdx).ad + 1) = 255 - (st.p.getLvl st.p.lvlIdx).ad - 1 by omega]; exact hfit'.2)
    obtain ⟨st3, i3, hr3, c3, a3, n3, f3⟩ := arr_closed (sn := sn) hD1 p2 r2 (by rw [hl1ad]; omega)
      (by
        rw [hl1ad, r1.frame.2.2.2.1, r1.depth]
        intro ⟨h1, h2, h3⟩
        have := hO.rootArr h2 h3
        omega)
    rw [hl1ad, Nat.add_sub_cancel] at a3 f3
    rw [hi1] at a3 n3 f3
    obtain ⟨hO3, hK⟩ := hO.back c3.moved.shape c3.moved.err (c3.depth.trans r1.depth) (r1.frame.trans c3.moved.frame)
      (fun i hi => by rw [c3.moved.lower i (by rw [hi1]; exact hi), r1.lvl, if_neg (Nat.ne_of_lt hi)])
      (fun i hi => c3.zeros i (by rw [r1.depth]; exact hi)) a3
    refine ⟨st3, (Steps.one i1).trans ((Steps.ofPass i2).trans (Steps.one i3)), hr3, hO3, by rw [c3.moved.scan, r1.scan], hK,
      by rw [n3, r1.lvl, if_pos rfl]; exact b2, ?_⟩
    -- the level is an object's again iff no array is open in it
    rw [SkipFlags, f3]
    rcases hctx with ⟨hf, ha⟩ | ⟨hf, ha⟩
    · rw [hf, if_pos ha]; exact ⟨fun _ => rfl, (fun h => nomatch h), (fun h => nomatch h)⟩
    · rw [if_neg (by omega)]
      exact ⟨(fun h => by rcases hf with h' | h' <;> rw [h'] at h <;> cases h), fun _ => rfl, fun _ => Or.inl rfl⟩
  | _ => cases hc

end Binson
