/-
  Layer 4: from the contents of the current state entry to `ItemMatches` - every getter
  answers what the annotated tree says about the child just returned.
-/
import Binson.Lemmas.NavValue
namespace Binson

theorem itemMatches_of (p : Parser) (he : p.err = .none) (v : Value) (nm : Option (Bytes × Span)) (off : Nat)
    (hty : (p.getLvl p.cur).ctype = (annotate nm off v).item.ty)
    (hname : ∀ b s, nm = some (b, s) → (p.getLvl p.cur).name = some s ∧ p.slice s = b ∧ s.off + s.len ≤ p.size)
    (hsc : v.isContainer = false → (p.getLvl p.cur).val = (annotate nm off v).item.val ∧
      ∀ s, (annotate nm off v).item.val = .span s → p.slice s = (annotate nm off v).item.payload ∧ s.off + s.len ≤ p.size) :
    ItemMatches p (annotate nm off v).item := by
  have hnm : ∀ b s, (annotate nm off v).item.name = some (b, s) → getName p = (p, some s) ∧ p.slice s = b ∧ s.off + s.len ≤ p.size := by
    intro b s h
    rw [annotate_item_name] at h
    obtain ⟨h1, h2, h3⟩ := hname b s h
    refine ⟨?_, h2, h3⟩
    unfold getName
    rw [if_neg (by simp [he]), h1]
  cases v with
  | bool _ | int _ | dbl _ =>
    obtain ⟨hv, _⟩ := hsc rfl
    simp only [annotate, Node.item] at hty hv
    refine ⟨?_, hnm, ?_, ?_, ?_, ?_, ?_, ?_, ?_⟩ <;>
      simp [getType, getInteger, getBoolean, getDouble, getStringBbuf, getBytesBbuf, stringEquals, curSpan, annotate, Node.item, he, hty, hv]
  | arr _ | obj _ =>
    simp only [annotate, Node.item] at hty
    refine ⟨?_, hnm, ?_, ?_, ?_, ?_, ?_, ?_, ?_⟩ <;>
      simp [getType, getInteger, getBoolean, getDouble, getStringBbuf, getBytesBbuf, stringEquals, annotate, Node.item, he, hty]
  | str s =>
    obtain ⟨hv, hp⟩ := hsc rfl
    simp only [annotate, Node.item] at hty hv hp
    have hp' := hp _ rfl
    refine ⟨?_, hnm, ?_, ?_, ?_, ?_, ?_, ?payload, ?streq⟩
    case payload =>
      intro sp h
      simp only [annotate, Node.item, Val.span.injEq] at h ⊢
      subst h; exact hp'
    case streq =>
      intro t
      simp only [stringEquals, curSpan, he, hty, hv, annotate, Node.item, and_self, if_true, true_and]
      rw [hp'.1]
      by_cases h : s = t
      · simp [h, (cmpBytes_eq_zero t t).mpr rfl]
      · have : ¬ cmpBytes s t = 0 := fun hc => h ((cmpBytes_eq_zero s t).mp hc)
        simp [h, this]
    all_goals simp [getType, getInteger, getBoolean, getDouble, getStringBbuf, getBytesBbuf, curSpan, he, hty, hv, annotate, Node.item]
  | bytes s =>
    obtain ⟨hv, hp⟩ := hsc rfl
    simp only [annotate, Node.item] at hty hv hp
    have hp' := hp _ rfl
    refine ⟨?_, hnm, ?_, ?_, ?_, ?_, ?_, ?payload, ?_⟩
    case payload =>
      intro sp h
      simp only [annotate, Node.item, Val.span.injEq] at h ⊢
      subst h; exact hp'
    all_goals simp [getType, getInteger, getBoolean, getDouble, getStringBbuf, getBytesBbuf, stringEquals, curSpan, he, hty, hv, annotate, Node.item]

end Binson
