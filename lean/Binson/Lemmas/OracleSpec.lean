/-
  The executable oracles of the driver are the definitions the theorems are stated with:
  the writer oracle (`specPieces`, `fitted`, Spec/WriterSpec.lean) equals `WOp.pieces`, `fittedPieces`.
  (The parser oracles use `decodeRef` (= spec by `decodeRef_iff`), `Cursor.step` and `render` directly.)
-/
import Binson.Spec.WriterSpec
import Binson.Lemmas.WriterLemmas
namespace Binson

theorem fitted_eq_fittedPieces (cap : Nat) : ∀ (ps : List Bytes) (used : Nat), fitted cap used ps = fittedPieces cap used ps
  | [], _ => rfl
  | p :: r, used => by
    unfold fitted fittedPieces
    rw [fitted_eq_fittedPieces cap r]

theorem specPieces_eq_pieces (op : WOp) : specPieces op = op.pieces := by
  cases op with
  | objBegin => rfl
  | objEnd => rfl
  | arrBegin => rfl
  | arrEnd => rfl
  | bool b => rfl
  | int v => simp [specPieces, WOp.pieces, packInt_encInt]
  | dbl bits => simp [specPieces, WOp.pieces, leBytesM_eq_leBytes]
  | str s =>
    cases s with
    | nil => simp [specPieces, WOp.pieces, packInt_encInt]
    | cons a t => simp [specPieces, WOp.pieces, packInt_encInt]
  | bytes s =>
    cases s with
    | nil => simp [specPieces, WOp.pieces, packInt_encInt]
    | cons a t => simp [specPieces, WOp.pieces, packInt_encInt]
  | raw s => rfl

/-- the destination image the C04 oracle demands is the one `writer_run` proves -/
theorem oracle_image_eq (cap : Nat) (ops : List WOp) :
    fitted cap 0 (ops.flatMap specPieces) = fittedPieces cap 0 (allPieces ops) := by
  rw [fitted_eq_fittedPieces]
  unfold allPieces
  congr 1
  induction ops with
  | nil => rfl
  | cons op r ih => simp [List.flatMap_cons, specPieces_eq_pieces, ih]

end Binson
