/-
  Layer 1: the whole loop and `_advance_parsing`: shape preserved, fuel never exhausted,
  the cursor never ends before where it started, callbacks bounded by the bytes advanced over.
-/
import Binson.Lemmas.Iter
namespace Binson

/-- the loop from `st`, on enough fuel: `events logged ≤ bytes advanced over + 1`, written without
    subtraction -/
structure LoopOk (st : LoopSt) (r : LoopSt × LoopRes) : Prop where
  shape : Shape r.1.p
  frame : st.p.Frame r.1.p
  fuel : r.2 ≠ .outOfFuel
  mono : st.p.used ≤ r.1.p.used
  cost : r.1.ev.length + st.p.used ≤ st.ev.length + r.1.p.used + 1

/-- one turn of the loop with fuel left (`rw [advLoop]` would have the equation lemmas of `advLoop`
    derived in every module that does it, which takes seconds; this is its unfolding) -/
theorem advLoop_succ (f : Nat) (st : LoopSt) (sn : Option (List UInt8)) (oa od : Nat) :
    advLoop (f + 1) st sn oa od =
      match iter st sn oa od with
      | (st, .ret b) => (st, .done b)
      | (st, .stop) => (st, .done (st.p.err = .none))
      | (st, .cont) => advLoop f st sn oa od := by
  conv => lhs; unfold advLoop
  cases iter st sn oa od with
  | mk s o => cases o <;> rfl

/-- every iteration that continues has consumed a byte, so `size - used + 1` iterations suffice -/
theorem advLoop_spec (f : Nat) (st : LoopSt) (sn : Option (List UInt8)) (oa od : Nat)
    (h : Shape st.p) (he : st.p.err = .none) (hf : st.p.size - st.p.used + 1 ≤ f) :
    LoopOk st (advLoop f st sn oa od) := by
  induction f generalizing st with
  | zero => omega
  | succ f ih =>
    have is := iter_spec st sn oa od h he
    rw [advLoop_succ]
    generalize iter st sn oa od = r at is
    obtain ⟨st', out⟩ := r
    obtain ⟨ish, ifr, iev, icont, imono⟩ := is
    simp only at ish ifr iev icont imono
    cases out with
    | ret b =>
      show LoopOk st (st', .done b)
      exact ⟨ish, ifr, by simp, imono, by simp only; omega⟩
    | stop =>
      show LoopOk st (st', .done _)
      exact ⟨ish, ifr, by simp, imono, by simp only; omega⟩
    | cont =>
      obtain ⟨e', hu'⟩ := icont rfl
      have hsz : st'.p.size = st.p.size := ifr.1
      have hus := ish.hus
      obtain ⟨a, b, c, d, e⟩ := ih st' ish e' (by omega)
      show LoopOk st (advLoop f st' sn oa od)
      exact ⟨a, ifr.trans b, c, by omega, by omega⟩

theorem advance_err (p : Parser) (scan : Scan) (sn : Option (List UInt8)) (he : p.err ≠ .none) :
    advance p scan sn = ⟨p, false, [], false⟩ := by
  unfold advance; rw [if_pos he]

theorem advance_run (p : Parser) (scan : Scan) (sn : Option (List UInt8)) (h : Shape p) (he : p.err = .none) :
    ∃ s b, advLoop (p.size - p.used + 2) ⟨p, some scan, 0, []⟩ sn (p.getLvl p.cur).ad p.depth = (s, .done b) ∧
      advance p scan sn = ⟨s.p, b, s.ev.reverse, false⟩ := by
  have ls := advLoop_spec (p.size - p.used + 2) ⟨p, some scan, 0, []⟩ sn (p.getLvl p.cur).ad p.depth h he (by simp)
  unfold advance
  rw [if_neg (fun hn => hn he)]
  simp only [touchLvl_of_lt h.cur_lt]
  generalize advLoop (p.size - p.used + 2) ⟨p, some scan, 0, []⟩ sn (p.getLvl p.cur).ad p.depth = r at ls
  obtain ⟨s, res⟩ := r
  cases res with
  | done b => exact ⟨s, b, rfl, rfl⟩
  | outOfFuel => exact absurd rfl ls.fuel

/-- a loop invariant `I` and a postcondition `Q` on the final state and the value `_advance_parsing` returns -/
theorem advLoop_ind (sn : Option (List UInt8)) (oa od : Nat) (I : LoopSt → Prop) (Q : LoopSt → Bool → Prop)
    (hstep : ∀ st, I st →
      ((iter st sn oa od).2 = .cont → I (iter st sn oa od).1) ∧
      ((iter st sn oa od).2 = .stop → Q (iter st sn oa od).1 (decide ((iter st sn oa od).1.p.err = .none))) ∧
      (∀ b, (iter st sn oa od).2 = .ret b → Q (iter st sn oa od).1 b)) :
    ∀ (f : Nat) (st st' : LoopSt) (b : Bool), I st → advLoop f st sn oa od = (st', .done b) → Q st' b := by
  intro f
  induction f with
  | zero =>
    intro st st' b _ h
    cases (Prod.mk.inj (show (st, LoopRes.outOfFuel) = (st', .done b) from h)).2
  | succ f ih =>
    intro st st' b hI h
    obtain ⟨s1, s2, s3⟩ := hstep st hI
    rw [advLoop_succ] at h
    generalize iter st sn oa od = r at h s1 s2 s3
    obtain ⟨st1, out⟩ := r
    cases out with
    | ret b' =>
      cases h
      exact s3 _ rfl
    | stop =>
      cases h
      exact s2 rfl
    | cont => exact ih st1 st' b (s1 rfl) h

/-- the same for `_advance_parsing` on a shaped, error-free parser -/
theorem advance_ind (p : Parser) (hs : Shape p) (he : p.err = .none) (scan : Scan) (sn : Option (List UInt8))
    (I : LoopSt → Prop) (Q : LoopSt → Bool → Prop)
    (h0 : I ⟨p, some scan, 0, []⟩)
    (hstep : ∀ st, I st →
      ((iter st sn (p.getLvl p.cur).ad p.depth).2 = .cont → I (iter st sn (p.getLvl p.cur).ad p.depth).1) ∧
      ((iter st sn (p.getLvl p.cur).ad p.depth).2 = .stop →
        Q (iter st sn (p.getLvl p.cur).ad p.depth).1 (decide ((iter st sn (p.getLvl p.cur).ad p.depth).1.p.err = .none))) ∧
      (∀ b, (iter st sn (p.getLvl p.cur).ad p.depth).2 = .ret b → Q (iter st sn (p.getLvl p.cur).ad p.depth).1 b)) :
    ∃ st', (advance p scan sn).p = st'.p ∧ Q st' (advance p scan sn).ret := by
  obtain ⟨s, b, hl, ha⟩ := advance_run p scan sn hs he
  rw [ha]
  exact ⟨s, rfl, advLoop_ind sn _ _ I Q hstep _ _ s b h0 hl⟩

structure AdvOk (p : Parser) (r : AdvRes) : Prop where
  shape : Shape r.p
  frame : p.Frame r.p
  fuel : r.outOfFuel = false
  ev : r.ev.length ≤ (p.size - p.used) + 1
  mono : p.used ≤ r.p.used
  cost : r.ev.length + p.used ≤ r.p.used + 1

theorem advance_spec (p : Parser) (scan : Scan) (sn : Option (List UInt8)) (h : Shape p) : AdvOk p (advance p scan sn) := by
  by_cases he : p.err = .none
  · obtain ⟨s, b, hl, ha⟩ := advance_run p scan sn h he
    have ls := advLoop_spec (p.size - p.used + 2) ⟨p, some scan, 0, []⟩ sn (p.getLvl p.cur).ad p.depth h he (by simp)
    rw [hl] at ls
    have hus : s.p.used ≤ s.p.size := ls.shape.hus
    have hsz : s.p.size = p.size := ls.frame.1
    have hm : p.used ≤ s.p.used := ls.mono
    have hc : s.ev.length + p.used ≤ 0 + s.p.used + 1 := ls.cost
    rw [ha]
    exact ⟨ls.shape, ls.frame, rfl, by simp only [List.length_reverse]; omega, hm, by simp only [List.length_reverse]; omega⟩
  · rw [advance_err p scan sn he]
    exact ⟨h, Parser.Frame.refl p, rfl, Nat.le_add_left _ _, Nat.le_refl _, by simp⟩

end Binson
