/-
  C02, last sentence: "When nesting is the first obstacle met, the error code is the matching
  MAX_DEPTH_OBJECT / MAX_DEPTH_ARRAY."  For a document that is well-formed except that it nests
  too deep for this parser, `verify` fails and the error flag is exactly the code of the FIRST
  obstacle in byte order (`firstObstacle`, Spec/Decode.lean).

  The loop over such a document is the `some b` case of `run_value` (Lemmas/PassInd.lean): the values
  before the obstructed one are passed, the BEGIN token of the obstacle sets the error and the loop
  returns false.
-/
import Binson.Lemmas.VerifyValid
namespace Binson

/-- C02, last sentence, for init + verify from ANY allocated parser object: init accepts, verify
    returns false, the error flag is the code of the first obstacle. -/
theorem verify_depth_code (g : Parser) (ha : Alloc g) (hmd : g.maxDepth ≤ 255) (root : Root) (v : Value)
    (hwfv : wfValue v = true) (hrk : rootKindOk root v = true) (hsz : (encode v).length < 2 ^ 63) (b : Bool)
    (hob : firstObstacle (match root with | .object => g.maxDepth | .array => g.maxDepth - 1) 255 v = some b) :
    (init g (encode v).toArray (rootNum root)).2 = true ∧
    (verify (init g (encode v).toArray (rootNum root)).1).2.1 = false ∧
    (verify (init g (encode v).toArray (rootNum root)).1).1.err = (if b then Err.maxDepthObject else Err.maxDepthArray) := by
  obtain ⟨hi, hF⟩ := init_fresh_encode g ha root v hrk hsz
  have hv := verify_fresh_stuck root hF hmd v (by simp) hwfv hrk b (by cases root <;> exact hob)
  exact ⟨hi, hv.1, hv.2⟩

/-- every document of the right root kind either is accepted (`wfDoc`) or has a first nesting obstacle:
    together with `verify_wellformed` the two cases cover all well-formed values -/
theorem wfDoc_or_firstObstacle (root : Root) (md : Nat) (v : Value) (hwfv : wfValue v = true) (hrk : rootKindOk root v = true) :
    wfDoc root md v = true ∨
    ∃ b, firstObstacle (match root with | .object => md | .array => md - 1) 255 v = some b := by
  unfold wfDoc
  rw [hwfv, hrk]
  cases root with
  | object => simpa using fits_or_firstObstacle md 255 v
  | array => simpa using fits_or_firstObstacle (md - 1) 255 v

/-- non-vacuity: `{"a":{"a":{}}}` with two state entries - the innermost `{` is the first obstacle;
    `{"a":[{}],"b":…}`-style mixes report whichever comes first in byte order -/
example : wfValue (.obj (.cons [0x61] (.obj (.cons [0x61] (.obj .nil) .nil)) .nil)) = true ∧
    firstObstacle 2 255 (.obj (.cons [0x61] (.obj (.cons [0x61] (.obj .nil) .nil)) .nil)) = some true := by decide

example : firstObstacle 1 1 (.obj (.cons [0x61] (.arr (.cons (.arr .nil) .nil)) (.cons [0x62] (.obj .nil) .nil))) = some true ∧
    firstObstacle 1 0 (.arr (.cons (.obj (.cons [0x61] (.obj .nil) .nil)) .nil)) = some false := by decide

end Binson
