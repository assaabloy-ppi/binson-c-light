/-
  Layer 3: the BEGIN token of the root container (all levels still zero), as an instance of the
  closed forms of `PassTok.lean`; the root END tokens are `iter_objEnd_root`, `iter_arrEnd_root` there.
-/
import Binson.Lemmas.PassInd
namespace Binson

/-- the state `advance … .verify` starts the loop in -/
def vstart (p : Parser) : LoopSt := ⟨p, some .verify, 0, []⟩

theorem cont_verify : Cont (some Scan.verify) := Or.inl rfl

theorem objBlock_notObj {lv : Level} (tok : Tok) (h : lv.flags.inObject = false) : objBlock lv tok = some (lv, tok) := by
  unfold objBlock; simp [h]

/-- root `{` of an object document, all levels still zero: depth 0 → 1, level 0 expects a field -/
theorem iter_objBegin_root {st : LoopSt} {sn : Option (List UInt8)} {oa od : Nat}
    (hsh : Shape st.p) (he : st.p.err = .none) (hd : st.p.depth = 0) (hz : ∀ i, st.p.getLvl i = Level.zero)
    (rest : Bytes) (hrem : st.p.rem = 0x40 :: rest)
    (hhas : has st.scan [.verify, .enterObj, .value, .leaveArr, .leaveObj] = true) :
    ∃ st', iter st sn oa od = (st', proceed (clear st.scan .enterObj) false) ∧
      StepRes st st' .none 1 (clear st.scan .enterObj) 1
        (fun i => if i = 0 then { Level.zero with ctype := .object, flags := .expField } else Level.zero)
        ((.objBegin, { Level.zero with ctype := .object, flags := .expField }) :: st.ev) := by
  have hidx : st.p.lvlIdx = 0 := by unfold Parser.lvlIdx; rw [hd]; rfl
  obtain ⟨st', hit, _, r⟩ := iter_objBegin_entered (sn := sn) (oa := oa) (od := od) hsh he rest hrem _ _ st.scan
    (objBlock_notObj _ (by rw [hz]; rfl)) (arrBlock_notArr _ _ _ (by rw [hz]; rfl)) hhas
    ⟨by omega, by have := hsh.hmd; omega⟩
  rw [hd, hidx, if_pos rfl, hz] at r
  refine ⟨st', hit, r.shape, r.err, r.scan, r.used, r.depth, r.frame, fun i => ?_, r.ev⟩
  rw [r.lvl]
  by_cases h : i = 0
  · rw [if_pos h, if_pos h]
  · rw [if_neg h, if_neg h, if_neg h, hz]

/-- root `[` of an array document, all levels still zero: level 0 (depth stays 1) is inside one array -/
theorem iter_arrBegin_root {st : LoopSt} {sn : Option (List UInt8)} {oa od : Nat}
    (hsh : Shape st.p) (he : st.p.err = .none) (hd : st.p.depth = 1) (hz : ∀ i, st.p.getLvl i = Level.zero)
    (rest : Bytes) (hrem : st.p.rem = 0x42 :: rest)
    (hhas : has st.scan [.verify, .value, .enterArr, .leaveArr, .leaveObj] = true) :
    ∃ st', iter st sn oa od = (st', proceed (clear st.scan .enterArr) false) ∧ st'.p.rem = rest ∧
      StepRes st st' .none 1 (clear st.scan .enterArr) 1 (fun i => if i = 0 then arrInnerLevel Level.zero else Level.zero)
        ((.arrBegin, arrInnerLevel Level.zero) :: st.ev) := by
  have hidx : st.p.lvlIdx = 0 := by unfold Parser.lvlIdx; rw [hd]; rfl
  obtain ⟨st', hit, hr, r⟩ := iter_arrBegin_entered (sn := sn) (oa := oa) (od := od) hsh he rest hrem _ _ st.scan
    (objBlock_notObj _ (by rw [hz]; rfl)) (arrBlock_notArr _ _ _ (by rw [hz]; rfl)) (by rw [hz]; decide) hhas
  rw [hidx, hz] at r
  refine ⟨st', hit, hr, r.shape, r.err, r.scan, r.used, r.depth.trans hd, r.frame, fun i => ?_, r.ev⟩
  rw [r.lvl]
  by_cases h : i = 0
  · rw [if_pos h, if_pos h]; rfl
  · rw [if_neg h, if_neg h, hz]

end Binson
