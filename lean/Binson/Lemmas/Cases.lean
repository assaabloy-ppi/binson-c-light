/-
  Layer 1: the six cases of the `switch (next_state)` in the loop body, for EVERY scan word,
  originating level and lookup name. Each `case*_full` lists the outcomes of its case: the ways it
  latches an error, then the error-free outcomes with the tests that select them; and what the
  case keeps of the parser. Everything else proved about the cases is read off these lists.
-/
import Binson.Lemmas.Classify
namespace Binson

/-- what no iteration changes -/
def Parser.Frame (p q : Parser) : Prop :=
  q.size = p.size ∧ q.buf = p.buf ∧ q.maxDepth = p.maxDepth ∧ q.ptype = p.ptype ∧ q.levels.size = p.levels.size

theorem Parser.Frame.refl (p : Parser) : p.Frame p := ⟨rfl, rfl, rfl, rfl, rfl⟩
theorem Parser.Frame.trans {p q r : Parser} (a : p.Frame q) (b : q.Frame r) : p.Frame r := by
  obtain ⟨a1, a2, a3, a4, a5⟩ := a; obtain ⟨b1, b2, b3, b4, b5⟩ := b
  exact ⟨b1.trans a1, b2.trans a2, b3.trans a3, b4.trans a4, b5.trans a5⟩
theorem Parser.SameFrame.toFrame {p q : Parser} (a : p.SameFrame q) : p.Frame q :=
  ⟨a.2.2.2.1, a.2.2.2.2.1, a.2.2.1, a.1, a.2.2.2.2.2.2⟩

theorem Shape.update {p q : Parser} (h : Shape p) (fr : p.Frame q)
    (hf : q.fault = false) (ho : q.oof = false)
    (hdp : q.depth ≤ q.maxDepth) (hcur : q.cur = q.lvlIdx) (hus : q.used ≤ q.size)
    (hsp : q.err = .none → ∀ i, (q.getLvl i).SpansOk q.size) : Shape q := by
  obtain ⟨f1, f2, f3, f4, f5⟩ := fr
  exact ⟨by rw [f5, f3]; exact h.hlv, by rw [f3]; exact h.hmd, hdp, hcur, hus, by rw [f2, f1]; exact h.hbs, by rw [f1]; exact h.hsz, hf, ho, hsp⟩

/-- What every way through a case keeps of the parser `p`: everything but the error code, the
    cursor, the depth (`current_state` following it) and the contents of `levels`. -/
structure Parser.Kept (p q : Parser) : Prop where
  frame : p.Frame q
  fault : q.fault = p.fault
  oof : q.oof = p.oof
  cur : q.cur = q.lvlIdx
  depth : p.depth ≤ p.maxDepth → q.depth ≤ p.maxDepth

theorem Parser.Kept.setLvl {p q : Parser} (k : p.Kept q) {i : Nat} (l : Level) (hi : i < q.levels.size) :
    p.Kept (q.setLvl i l) := by
  obtain ⟨f1, f2, f3, f4, f5⟩ := k.frame
  rw [setLvl_of_lt l hi]
  exact ⟨⟨f1, f2, f3, f4, Array.size_setIfInBounds.trans f5⟩, k.fault, k.oof, k.cur, k.depth⟩

theorem Parser.Kept.upd {p q : Parser} (k : p.Kept q) (u : Nat) (e : Err) : p.Kept { q with used := u, err := e } :=
  ⟨k.frame, k.fault, k.oof, k.cur, k.depth⟩

theorem Parser.Kept.shape {p q : Parser} (k : p.Kept q) (hp : Shape p) (hus : q.used ≤ p.size)
    (hsp : q.err = .none → ∀ i, (q.getLvl i).SpansOk p.size) : Shape q :=
  hp.update k.frame (k.fault.trans hp.hnf) (k.oof.trans hp.hno) (by rw [k.frame.2.2.1]; exact k.depth hp.hdp) k.cur
    (by rw [k.frame.1]; exact hus) (by rw [k.frame.1]; exact hsp)

theorem Parser.Kept.refl {p : Parser} (hcur : p.cur = p.lvlIdx) : p.Kept p := ⟨.refl p, rfl, rfl, hcur, id⟩

/-- ... and every way through a case makes at most one callback -/
def CaseKept (st : LoopSt) (p : Parser) (r : LoopSt × Out) : Prop :=
  p.Kept r.1.p ∧ r.1.ev.length ≤ st.ev.length + 1

/-- `q` is `p` with the cursor at `u` and the level `l` written to entry `i` -/
structure Stored (p : Parser) (u i : Nat) (l : Level) (q : Parser) : Prop where
  err : q.err = p.err
  used : q.used = u
  depth : q.depth = p.depth
  cur : q.cur = p.cur
  buf : q.buf = p.buf
  lsize : q.levels.size = p.levels.size
  lvl : ∀ j, q.getLvl j = if j = i then l else p.getLvl j

theorem stored_setLvl (p : Parser) (u : Nat) {i : Nat} (l : Level) (hi : i < p.levels.size) :
    Stored p u i l (({ p with used := u } : Parser).setLvl i l) := by
  have e := setLvl_of_lt (p := { p with used := u }) l hi
  exact ⟨by rw [e], by rw [e], by rw [e], by rw [e], by rw [e], by rw [e]; exact Array.size_setIfInBounds,
    getLvl_setLvl (p := { p with used := u }) l hi⟩

theorem Stored.trans {p q r : Parser} {u u' i : Nat} {l l' : Level} (a : Stored p u i l q) (b : Stored q u' i l' r) :
    Stored p u' i l' r := by
  refine ⟨b.err.trans a.err, b.used, b.depth.trans a.depth, b.cur.trans a.cur, b.buf.trans a.buf, b.lsize.trans a.lsize, fun j => ?_⟩
  rw [b.lvl j, a.lvl j]
  split <;> rfl

theorem Stored.lvlIdx {p q : Parser} {u i : Nat} {l : Level} (h : Stored p u i l q) : q.lvlIdx = p.lvlIdx := by
  unfold Parser.lvlIdx; rw [h.depth]

/-- an error return, the cursor where it was or (only if `m`) past the one byte of a BEGIN/END token -/
def Failed (p : Parser) (m : Prop) (r : LoopSt × Out) : Prop :=
  r.2 = .ret false ∧ r.1.p.err ≠ .none ∧ (r.1.p.used = p.used ∨ (r.1.p.used = p.used + 1 ∧ m))

/-- the proceed test at the end of the loop body -/
def proceed (scan : Option Scan) (force : Bool) : Out :=
  if force || has scan [.verify, .leaveObj, .value, .leaveArr] then .cont else .stop

theorem finish_eq (st : LoopSt) (tok : Tok) (p : Parser) (lv : Level) (li : Nat) (scan : Option Scan) (force : Bool) :
    finish st tok p lv li scan force =
      if p.err ≠ .none then ({ st with p := p.setLvl li lv, scan := scan }, .ret false)
      else ({ st with p := p.setLvl li lv, scan := scan, ev := (tok, (p.setLvl li lv).getLvl (p.setLvl li lv).cur) :: st.ev },
            proceed scan force) := by
  have e : (p.setLvl li lv).err = p.err := by rw [Parser.setLvl_eq]
  unfold finish proceed
  simp only [e]
  split
  · rfl
  · split <;> rfl

section
variable {st : LoopSt} {tok : Tok} {p q : Parser} {lv : Level} {li : Nat} {s : Option Scan} {f : Bool} {r : LoopSt × Out}

theorem finish_of_err {m : Prop} (hr : finish st tok q lv li s f = r) (he : q.err ≠ .none) (k : p.Kept q) (hli : li < q.levels.size)
    (hu : q.used = p.used ∨ (q.used = p.used + 1 ∧ m)) :
    Failed p m r ∧ CaseKept st p r := by
  rw [← hr, finish_eq, if_pos he]
  exact ⟨⟨rfl, by rw [Parser.setLvl_eq]; exact he, by rw [Parser.setLvl_eq]; exact hu⟩, k.setLvl lv hli, Nat.le_succ _⟩

theorem finish_of_ok (hr : finish st tok q lv li s f = r) (he : q.err = .none) (k : p.Kept q) (hli : li < q.levels.size) :
    (r.2 = proceed s f ∧ r.1.scan = s ∧ r.1.p = q.setLvl li lv) ∧ CaseKept st p r := by
  rw [← hr, finish_eq, if_neg (fun h => h he)]
  exact ⟨⟨rfl, rfl, rfl⟩, k.setLvl lv hli, Nat.le_of_eq (List.length_cons ..)⟩

end

theorem has_mono {s : Option Scan} {l1 l2 : List Scan} (hsub : ∀ x ∈ l2, x ∈ l1) (h : has s l1 = false) : has s l2 = false := by
  cases s with
  | none => rfl
  | some x =>
    simp only [has] at h ⊢
    cases hc : l2.contains x
    · rfl
    · have : x ∈ l2 := by simpa using hc
      have : l1.contains x = true := by simpa using hsub x this
      rw [this] at h; cases h

theorem has_ne_none {s : Option Scan} {l : List Scan} (h : has s l = true) : s ≠ none :=
  fun e => by rw [e] at h; cases h

/-- the level once an array has been opened in it (the `current_type` is set by the classification stage) -/
def arrInnerLevel' (l : Level) : Level := { l with flags := .arr1, ad := l.ad + 1 }

def arrEndLevel (l : Level) : Level :=
  { l with ad := l.ad - 1, flags := if l.ad - 1 = 0 then .expField else .arr1 }

def nameLevel (l : Level) (span : Span) : Level := { l with name := some span, flags := .expValue }

def scalarStore (tok : Tok) (lv : Level) (span : Span) (q : Parser) : Level :=
  match tok with
  | .string => { lv with ctype := .string, val := .span span }
  | .bytes => { lv with ctype := .bytes, val := .span span }
  | .integer => { lv with ctype := .integer, val := .int (parseIntVal q span) }
  | .double => { lv with ctype := .double, val := .dbl (leNat q span.off 8) }
  | .boolean => { lv with ctype := .boolean, val := .bool (q.byte span.off = 0x44) }
  | _ => lv

def Tok.isScalar : Tok → Bool
  | .string | .bytes | .integer | .double | .boolean => true
  | _ => false

/-- the bytes a case reads, the token's span and the name stored in the level, are inside the buffer -/
def InBuf (p : Parser) (lv : Level) (span : Span) : Prop :=
  p.touchBuf span.off span.len = p ∧ touchName p lv.name = p

theorem inBuf_of {p : Parser} (hbs : p.buf.size = p.size) {lv : Level} (hl : lv.SpansOk p.size) {span : Span}
    (hs : span.off + span.len ≤ p.size) : InBuf p lv span := by
  refine ⟨touchBuf_of_le (by rw [hbs]; exact hs), ?_⟩
  cases hn : lv.name with
  | none => rfl
  | some pn => exact touchBuf_of_le (by rw [hbs]; exact hl.1 pn hn)

section
variable {st : LoopSt} {p : Parser} {lv : Level} {s : Option Scan} {r : LoopSt × Out}

theorem caseObjBegin_full (he : p.err = .none) (hli : p.lvlIdx < p.levels.size) (hcur : p.cur = p.lvlIdx)
    (hlv : p.levels.size = p.maxDepth) (hr : caseObjBegin st p lv p.lvlIdx s = r) :
    (Failed p (s ≠ none) r ∨
     (has s [.verify, .enterObj, .value, .leaveArr, .leaveObj] = true ∧ p.depth < p.maxDepth ∧
       r.2 = proceed (clear s .enterObj) false ∧ r.1.scan = clear s .enterObj ∧
       r.1.p.err = .none ∧ r.1.p.used = p.used + 1 ∧ r.1.p.depth = p.depth + 1 ∧
       ∀ j, r.1.p.getLvl j = if j = p.depth then { (if p.depth = p.lvlIdx then lv else p.getLvl p.depth) with flags := .expField }
                             else if j = p.lvlIdx then lv else p.getLvl j) ∨
     (has s [.verify, .enterObj, .value, .leaveArr, .leaveObj] = false ∧ r.2 = proceed s false ∧ r.1.scan = s ∧
       Stored p p.used p.lvlIdx (if lv.flags = .expField then { lv with flags := .expValue } else lv) r.1.p)) ∧
    CaseKept st p r := by
  have K0 := Parser.Kept.refl hcur
  unfold caseObjBegin at hr
  by_cases hm : has s [.verify, .enterObj, .value, .leaveArr, .leaveObj] = true
  · rw [if_pos hm] at hr
    have W := stored_setLvl p p.used lv hli
    have K := K0.setLvl lv hli
    generalize p.setLvl p.lvlIdx lv = w at hr W K
    have hmd : w.maxDepth = p.maxDepth := K.frame.2.2.1
    dsimp only at hr
    by_cases hc : w.depth < 255 ∧ w.depth < w.maxDepth
    · -- a new level
      have hd : w.depth + 1 - 1 < w.levels.size := by rw [W.lsize, hlv]; omega
      rw [if_pos hc, touchLvl_of_lt (p := { w with used := w.used + 1, depth := w.depth + 1, cur := w.depth + 1 - 1 }) hd] at hr
      obtain ⟨⟨h2, hsc, hp⟩, k⟩ := finish_of_ok hr (W.err.trans he)
        ⟨K.frame, K.fault, K.oof, by simp [Parser.lvlIdx], fun _ => by show w.depth + 1 ≤ p.maxDepth; omega⟩ hd
      refine ⟨Or.inr (Or.inl ⟨hm, by rw [← W.depth, ← hmd]; exact hc.2, h2, hsc, ?_, ?_, ?_, fun j => ?_⟩), k⟩
      · rw [hp, Parser.setLvl_eq]; exact W.err.trans he
      · rw [hp, Parser.setLvl_eq]; exact congrArg (· + 1) W.used
      · rw [hp, Parser.setLvl_eq]; exact congrArg (· + 1) W.depth
      · rw [hp, getLvl_setLvl (p := { w with used := w.used + 1, depth := w.depth + 1, cur := w.depth + 1 - 1 }) _ hd j,
          Nat.add_sub_cancel]
        show (if j = w.depth then { w.getLvl w.depth with flags := .expField } else w.getLvl j) = _
        rw [W.lvl, W.lvl, W.depth]
    · rw [if_neg hc] at hr
      exact (finish_of_err hr (fun h => Err.noConfusion h) (K.upd _ _) (W.lsize ▸ hli)
        (Or.inr ⟨congrArg (· + 1) W.used, has_ne_none hm⟩)).imp_left Or.inl
  · rw [if_neg hm] at hr
    obtain ⟨⟨h2, hsc, hp⟩, k⟩ := finish_of_ok hr he K0 hli
    exact ⟨Or.inr (Or.inr ⟨by simpa using hm, h2, hsc, hp ▸ stored_setLvl p p.used _ hli⟩), k⟩

theorem caseArrBegin_full (he : p.err = .none) (hli : p.lvlIdx < p.levels.size) (hcur : p.cur = p.lvlIdx)
    (hr : caseArrBegin st p lv p.lvlIdx s = r) :
    (Failed p False r ∨
     (has s [.verify, .value, .enterArr, .leaveArr, .leaveObj] = true ∧ lv.ad < 255 ∧
       r.2 = proceed (clear s .enterArr) false ∧ r.1.scan = clear s .enterArr ∧
       Stored p (p.used + 1) p.lvlIdx (arrInnerLevel' lv) r.1.p) ∨
     (has s [.verify, .value, .enterArr, .leaveArr, .leaveObj] = false ∧ r.2 = proceed s false ∧ r.1.scan = s ∧
       Stored p p.used p.lvlIdx (if lv.flags = .expField then { lv with flags := .expValue } else lv) r.1.p)) ∧
    CaseKept st p r := by
  have K0 := Parser.Kept.refl hcur
  unfold caseArrBegin at hr
  by_cases ha : lv.ad ≥ 255
  · rw [if_pos ha] at hr
    exact (finish_of_err hr (fun h => Err.noConfusion h) (K0.upd _ _) hli (Or.inl rfl)).imp_left Or.inl
  rw [if_neg ha] at hr
  by_cases hm : has s [.verify, .value, .enterArr, .leaveArr, .leaveObj] = true
  · rw [if_pos hm] at hr
    obtain ⟨⟨h2, hsc, hp⟩, k⟩ := finish_of_ok hr he (K0.upd _ _) hli
    exact ⟨Or.inr (Or.inl ⟨hm, by omega, h2, hsc, hp ▸ stored_setLvl p (p.used + 1) _ hli⟩), k⟩
  · rw [if_neg hm] at hr
    obtain ⟨⟨h2, hsc, hp⟩, k⟩ := finish_of_ok hr he K0 hli
    exact ⟨Or.inr (Or.inr ⟨by simpa using hm, h2, hsc, hp ▸ stored_setLvl p p.used _ hli⟩), k⟩

theorem caseObjEnd_full {od : Nat} (he : p.err = .none) (hli : p.lvlIdx < p.levels.size) (hcur : p.cur = p.lvlIdx)
    {s' : Option Scan} (hs' : s' = if od = p.depth then clear s .leaveObj else s)
    (hr : caseObjEnd st p lv p.lvlIdx s od = r) :
    (Failed p (s ≠ none) r ∨
     (lv.flags = .expField ∧ (has s [.verify, .leaveObj, .value, .leaveArr] = false ∨ (od = p.depth ∧ has s' [.value] = true)) ∧
       r.2 = .ret false ∧ Stored p p.used p.lvlIdx lv r.1.p) ∨
     (lv.flags = .expField ∧ has s [.verify, .leaveObj, .value, .leaveArr] = true ∧ (od = p.depth → has s' [.value] = false) ∧
       1 < p.depth ∧ r.2 = proceed s' false ∧ r.1.scan = s' ∧ r.1.p.err = .none ∧ r.1.p.used = p.used + 1 ∧
       r.1.p.depth = p.depth - 1 ∧ ∀ j, r.1.p.getLvl j = if j = p.lvlIdx then Level.zero else p.getLvl j) ∨
     (lv.flags = .expField ∧ has s [.verify, .leaveObj, .value, .leaveArr] = true ∧ (od = p.depth → has s' [.value] = false) ∧
       p.depth = 1 ∧ r.2 = .ret false ∧ r.1.p.err = .none ∧ r.1.p.used = p.used + 1 ∧ r.1.p.used = r.1.p.size ∧
       r.1.p.depth = 0 ∧ ∀ j, r.1.p.getLvl j = if j = p.lvlIdx then Level.zero else p.getLvl j)) ∧
    CaseKept st p r := by
  have K0 := Parser.Kept.refl hcur
  unfold caseObjEnd at hr
  by_cases hf : lv.flags ≠ .expField
  · rw [if_pos hf] at hr
    exact (finish_of_err hr (fun h => Err.noConfusion h) (K0.upd _ _) hli (Or.inl rfl)).imp_left Or.inl
  rw [if_neg hf] at hr
  have hf' : lv.flags = .expField := Classical.not_not.mp hf
  have W := stored_setLvl p p.used lv hli
  have K := K0.setLvl lv hli
  by_cases hm : has s [.verify, .leaveObj, .value, .leaveArr] = true
  · rw [if_pos hm, ← hs'] at hr
    dsimp only at hr
    by_cases hv : od = p.depth ∧ has s' [.value] = true
    · rw [if_pos hv] at hr
      subst hr
      exact ⟨Or.inr (Or.inl ⟨hf', Or.inr hv, rfl, W⟩), K, Nat.le_succ _⟩
    rw [if_neg hv] at hr
    have hv' : od = p.depth → has s' [.value] = false := fun h => by
      cases hc : has s' [.value]
      · rfl
      · exact absurd ⟨h, hc⟩ hv
    generalize p.setLvl p.lvlIdx lv = w at hr W K
    -- consumed: the level is wiped
    have hc : w.cur < w.levels.size := by rw [W.cur, hcur, W.lsize]; exact hli
    rw [touchLvl_of_lt (p := { w with used := w.used + 1 }) hc] at hr
    have X := stored_setLvl w (w.used + 1) Level.zero hc
    have Kx := (K.upd (w.used + 1) w.err).setLvl Level.zero hc
    generalize ({ w with used := w.used + 1 } : Parser).setLvl w.cur Level.zero = x at hr X Kx
    rw [W.cur, hcur, W.used] at X
    replace X := W.trans X
    have hmv : x.used = p.used + 1 ∧ s ≠ none := ⟨X.used, has_ne_none hm⟩
    by_cases hd : x.depth > 1
    · -- and the parser goes back to the level below
      rw [if_pos hd] at hr
      have hlt : x.depth - 1 - 1 < x.levels.size := by
        have := hli
        unfold Parser.lvlIdx at this
        rw [X.lsize]; rw [X.depth] at hd ⊢; rw [if_pos (by omega)] at this
        omega
      obtain ⟨⟨h2, hsc, hp⟩, k⟩ := finish_of_ok hr (X.err.trans he)
        ⟨Kx.frame, Kx.fault, Kx.oof, by show x.depth - 1 - 1 = if x.depth - 1 > 0 then x.depth - 1 - 1 else 0; rw [if_pos (by omega)],
          fun h => Nat.le_trans (Nat.sub_le _ _) (Kx.depth h)⟩ hlt
      refine ⟨Or.inr (Or.inr (Or.inl ⟨hf', hm, hv', by rw [← X.depth]; exact hd, h2, hsc, ?_, ?_, ?_, fun j => ?_⟩)), k⟩
      · rw [hp, Parser.setLvl_eq]; exact X.err.trans he
      · rw [hp, Parser.setLvl_eq]; exact X.used
      · rw [hp, Parser.setLvl_eq, ← X.depth]
      · rw [hp, getLvl_setLvl_self]; exact X.lvl j
    rw [if_neg hd] at hr
    by_cases hd1 : x.depth = 1
    · -- the root object ends: the callback is made here, and the whole buffer must have been read
      rw [if_pos hd1] at hr
      have Kr : ∀ e, p.Kept { x with depth := 0, cur := 0, err := e } := fun _ => ⟨Kx.frame, Kx.fault, Kx.oof, rfl, fun _ => Nat.zero_le _⟩
      by_cases hu : x.used ≠ x.size
      · rw [if_pos hu] at hr
        subst hr
        exact ⟨Or.inl ⟨rfl, fun h => Err.noConfusion h, Or.inr hmv⟩, Kr _, Nat.le_of_eq (List.length_cons ..)⟩
      · rw [if_neg hu] at hr
        subst hr
        exact ⟨Or.inr (Or.inr (Or.inr ⟨hf', hm, hv', X.depth ▸ hd1, rfl, X.err.trans he, X.used, Classical.not_not.mp hu, rfl, X.lvl⟩)),
          Kr _, Nat.le_of_eq (List.length_cons ..)⟩
    · rw [if_neg hd1] at hr
      subst hr
      exact ⟨Or.inl ⟨rfl, fun h => Err.noConfusion h, Or.inr hmv⟩, Kx.upd _ _, Nat.le_succ _⟩
  · rw [if_neg hm] at hr
    subst hr
    exact ⟨Or.inr (Or.inl ⟨hf', Or.inl (by simpa using hm), rfl, W⟩), K, Nat.le_succ _⟩

theorem caseArrEnd_full {oa od : Nat} (he : p.err = .none) (hli : p.lvlIdx < p.levels.size) (hcur : p.cur = p.lvlIdx)
    {s' : Option Scan} (hs' : s' = if od = p.depth ∧ oa = lv.ad then clear s .leaveArr else s)
    (hr : caseArrEnd st p lv p.lvlIdx s oa od = r) :
    (Failed p (s ≠ none) r ∨
     (lv.flags.inArray = true ∧ has s [.verify, .value, .leaveArr, .leaveObj] = false ∧ r.2 = .ret false ∧
       Stored p p.used p.lvlIdx lv r.1.p) ∨
     (lv.flags.inArray = true ∧ has s [.verify, .value, .leaveArr, .leaveObj] = true ∧ 1 ≤ lv.ad ∧
       ¬ (lv.ad = 1 ∧ p.ptype = 2 ∧ p.depth = 1) ∧
       r.2 = proceed s' false ∧ r.1.scan = s' ∧ Stored p (p.used + 1) p.lvlIdx (arrEndLevel lv) r.1.p) ∨
     (lv.flags.inArray = true ∧ has s [.verify, .value, .leaveArr, .leaveObj] = true ∧ lv.ad = 1 ∧ p.ptype = 2 ∧ p.depth = 1 ∧
       r.2 = .ret false ∧ Stored p (p.used + 1) p.lvlIdx (arrEndLevel lv) r.1.p ∧ r.1.p.used = r.1.p.size)) ∧
    CaseKept st p r := by
  have K0 := Parser.Kept.refl hcur
  unfold caseArrEnd at hr
  by_cases hfn : (!lv.flags.inArray) = true
  · rw [if_pos hfn] at hr
    exact (finish_of_err hr (fun h => Err.noConfusion h) (K0.upd _ _) hli (Or.inl rfl)).imp_left Or.inl
  rw [if_neg hfn] at hr
  have hf : lv.flags.inArray = true := by simpa using hfn
  by_cases hm : has s [.verify, .value, .leaveArr, .leaveObj] = true
  · rw [if_pos hm, ← hs'] at hr
    dsimp only at hr
    by_cases ha0 : lv.ad = 0
    · rw [if_pos ha0] at hr
      exact (finish_of_err hr (fun h => Err.noConfusion h) (K0.upd _ _) hli (Or.inl rfl)).imp_left Or.inl
    rw [if_neg ha0] at hr
    -- consumed: one array closed
    have K1 : p.Kept { p with used := p.used + 1 } := K0.upd _ _
    have W : ∀ L, L = arrEndLevel lv →
        Stored p (p.used + 1) p.lvlIdx (arrEndLevel lv) (({ p with used := p.used + 1 } : Parser).setLvl p.lvlIdx L) :=
      fun L e => e ▸ stored_setLvl p (p.used + 1) _ hli
    by_cases ha1 : lv.ad - 1 = 0
    · replace W := W { lv with ad := lv.ad - 1, flags := .expField } (by unfold arrEndLevel; rw [if_pos ha1])
      rw [if_pos ha1] at hr
      by_cases hroot : p.ptype = 2 ∧ p.depth = 1
      · -- the root array ends: the callback is made here, and the whole buffer must have been read
        rw [if_pos hroot] at hr
        have K := K1.setLvl { lv with ad := lv.ad - 1, flags := .expField } hli
        generalize ({ p with used := p.used + 1 } : Parser).setLvl p.lvlIdx { lv with ad := lv.ad - 1, flags := .expField } = w at hr W K
        by_cases hu : w.used ≠ w.size
        · rw [if_pos hu] at hr
          subst hr
          exact ⟨Or.inl ⟨rfl, fun h => Err.noConfusion h, Or.inr ⟨W.used, has_ne_none hm⟩⟩,
            K.upd _ _, Nat.le_of_eq (List.length_cons ..)⟩
        · rw [if_neg hu] at hr
          subst hr
          exact ⟨Or.inr (Or.inr (Or.inr ⟨hf, hm, by omega, hroot.1, hroot.2, rfl, W, Classical.not_not.mp hu⟩)), K,
            Nat.le_of_eq (List.length_cons ..)⟩
      · rw [if_neg hroot] at hr
        obtain ⟨⟨h2, hsc, hp⟩, k⟩ := finish_of_ok hr he K1 hli
        exact ⟨Or.inr (Or.inr (Or.inl ⟨hf, hm, by omega, fun h => hroot h.2, h2, hsc, hp ▸ W⟩)), k⟩
    · rw [if_neg ha1] at hr
      obtain ⟨⟨h2, hsc, hp⟩, k⟩ := finish_of_ok hr he K1 hli
      exact ⟨Or.inr (Or.inr (Or.inl ⟨hf, hm, by omega, fun h => ha1 (by omega), h2, hsc,
        hp ▸ W { lv with ad := lv.ad - 1, flags := .arr1 } (by unfold arrEndLevel; rw [if_neg ha1])⟩)), k⟩
  · rw [if_neg hm] at hr
    subst hr
    exact ⟨Or.inr (Or.inl ⟨hf, by simpa using hm, rfl, stored_setLvl p p.used lv hli⟩), K0.setLvl lv hli, Nat.le_succ _⟩

theorem caseFieldName_full {consumed : Span} {bc : Nat} {sn : Option (List UInt8)} {oa od : Nat}
    (he : p.err = .none) (hli : p.lvlIdx < p.levels.size) (hcur : p.cur = p.lvlIdx) (hin : InBuf p lv consumed)
    {s' : Option Scan} (hs' : s' = if oa = lv.ad ∧ od = p.depth then clear s .value else s)
    (hr : caseFieldName st p lv p.lvlIdx s consumed bc sn oa od = r) :
    (Failed p False r ∨
     (oa = lv.ad ∧ od = p.depth ∧ overshoot p consumed sn = true ∧ r.2 = .ret false ∧ r.1.ev = st.ev ∧
       Stored p (p.used - bc) p.lvlIdx { lv with flags := .expField } r.1.p) ∨
     (nameOrdErr p lv consumed = false ∧ r.2 = .cont ∧ r.1.scan = s' ∧ Stored p p.used p.lvlIdx (nameLevel lv consumed) r.1.p)) ∧
    CaseKept st p r := by
  have K0 := Parser.Kept.refl hcur
  unfold caseFieldName at hr
  rw [hin.1, hin.2] at hr
  dsimp only at hr
  by_cases ho : nameOrdErr p lv consumed = true
  · rw [if_pos ho] at hr
    exact (finish_of_err hr (fun h => Err.noConfusion h) (K0.upd _ _) hli (Or.inl rfl)).imp_left Or.inl
  rw [if_neg ho] at hr
  have stored : ∀ {s'' : Option Scan}, finish st .fieldName p { lv with name := some consumed, flags := .expValue } p.lvlIdx s'' true = r →
      (nameOrdErr p lv consumed = false ∧ r.2 = .cont ∧ r.1.scan = s'' ∧ Stored p p.used p.lvlIdx (nameLevel lv consumed) r.1.p) ∧
      CaseKept st p r := by
    intro s'' hr
    obtain ⟨⟨h2, hsc, hp⟩, k⟩ := finish_of_ok hr he K0 hli
    exact ⟨⟨by simpa using ho, h2, hsc, hp ▸ stored_setLvl p p.used _ hli⟩, k⟩
  by_cases horig : oa = lv.ad ∧ od = p.depth
  · rw [if_pos horig] at hr hs'
    by_cases hov : overshoot p consumed sn = true
    · -- the name read is past the name looked for: it is un-read
      rw [if_pos hov] at hr
      subst hr
      exact ⟨Or.inr (Or.inl ⟨horig.1, horig.2, hov, rfl, rfl, stored_setLvl p (p.used - bc) _ hli⟩),
        (K0.upd (p.used - bc) p.err).setLvl _ hli, Nat.le_succ _⟩
    · rw [if_neg hov] at hr
      exact (hs' ▸ stored hr).imp_left (fun h => Or.inr (Or.inr h))
  · rw [if_neg horig] at hr hs'
    exact (hs' ▸ stored hr).imp_left (fun h => Or.inr (Or.inr h))

theorem caseScalar_full {tok : Tok} {consumed : Span} (he : p.err = .none) (hli : p.lvlIdx < p.levels.size)
    (hcur : p.cur = p.lvlIdx) (hin : p.touchBuf consumed.off consumed.len = p) (hr : caseScalar st tok p lv p.lvlIdx s consumed = r) :
    (Failed p False r ∨
     (tok.isScalar = true ∧ (tok = .integer → intBoundsOk (parseIntVal p consumed) consumed.len = true) ∧
       r.2 = proceed s false ∧ r.1.scan = s ∧ Stored p p.used p.lvlIdx (scalarStore tok lv consumed p) r.1.p)) ∧
    CaseKept st p r := by
  have K0 := Parser.Kept.refl hcur
  have fin : ∀ {L : Level}, finish st tok p L p.lvlIdx s false = r →
      (r.2 = proceed s false ∧ r.1.scan = s ∧ Stored p p.used p.lvlIdx L r.1.p) ∧ CaseKept st p r := by
    intro L hr
    obtain ⟨⟨h2, hsc, hp⟩, k⟩ := finish_of_ok hr he K0 hli
    exact ⟨⟨h2, hsc, hp ▸ stored_setLvl p p.used L hli⟩, k⟩
  unfold caseScalar at hr
  rw [hin] at hr
  cases tok with
  | string | bytes | boolean | double => exact (fin hr).imp_left (fun h => Or.inr ⟨rfl, (fun h => nomatch h), h⟩)
  | integer =>
    dsimp only at hr
    by_cases hb : intBoundsOk (parseIntVal p consumed) consumed.len = true
    · rw [if_neg (by simp [hb])] at hr
      exact (fin hr).imp_left (fun h => Or.inr ⟨rfl, fun _ => hb, h⟩)
    · rw [if_pos (by simpa using hb)] at hr
      exact (finish_of_err hr (fun h => Err.noConfusion h) (K0.upd _ _) hli (Or.inl rfl)).imp_left Or.inl
  | objBegin | objEnd | arrBegin | arrEnd | error | fieldName =>
    subst hr
    exact ⟨Or.inl ⟨rfl, fun h => Err.noConfusion h, Or.inl rfl⟩, K0.upd _ _, Nat.le_succ _⟩

end

end Binson
