/-
  Traversal programs: `Binson::deserialize` returns normally EXACTLY when
  `binson_parser_verify` accepts the bytes (arbitrary input), from the depth-balance (WalkBal.lean).
-/
import Binson.Lemmas.WalkBal
import Binson.Lemmas.WalkDesTop
namespace Binson

theorem walk_accept_obj {buf : Array UInt8} {md : Nat} (h : Accept buf md 1) :
    ∃ fs, wfDoc .object md (.obj fs) = true ∧ encode (.obj fs) = buf.toList := by
  obtain ⟨v, hw, henc, hk⟩ := h
  rcases hk with ⟨_, ⟨fs, rfl⟩, hf⟩ | ⟨hc, _⟩
  · exact ⟨fs, by unfold wfDoc; simp [hw, rootKindOk, hf], henc⟩
  · cases hc

/-- if `Binson::deserialize(binson_parser*)` returns normally on a shaped object parser, the buffer
    is the encoding of a well-formed object document that fits its depth configuration -/
theorem cppDesP_accept (W : Parser) (hs : Shape W) (hpt : W.ptype = 1) (hmd255 : W.maxDepth ≤ 255) (fs : Fields)
    (h : cppDeserializeP W = .ok fs) : Accept W.buf W.maxDepth 1 := by
  unfold cppDeserializeP at h
  obtain ⟨hr, h⟩ := walk_guard h
  obtain ⟨h2, ht, hF, hI⟩ := reset_inv hs hmd255 hr
  have hb0 : W.buf.getD 0 0 = 0x40 := by
    rcases ht with ⟨_, b⟩ | ⟨a, _⟩
    · exact b
    · rw [hpt] at a; cases a
  rw [hpt] at hF hI
  have hrem := fresh_rem hF h2
  rw [hb0] at hrem
  obtain ⟨hg, h⟩ := walk_guard h
  obtain ⟨g1, g2⟩ := walk_goIntoObject_true _ hF.shape hF.err _ hrem hg
  cases hc : cppDesItems (2 * (reset W).1.size + 4) (goIntoObject (reset W).1).1 .nil with
  | error e => rw [hc] at h; cases h
  | ok r =>
    obtain ⟨fs', p2⟩ := r
    rw [hc] at h
    have hl := (walk_guard h).1
    have hd0 : (reset W).1.depth = 0 := hF.depth
    rcases (walk_bal _).2.1 _ _ _ _ 1 hc ⟨advance_inv _ .enterObj none hI, g1, by rw [g2, hd0]⟩ (Nat.le_refl _) with hacc | ⟨i2, e2, d2⟩
    · exact hacc
    · obtain ⟨_, l1, l2, l3⟩ := walk_leaveObject_true p2 i2.shape i2.hpt (by omega) hl
      exact closed_accept (leaveObject_inv p2 i2) l1 (by omega) (Or.inl (by omega))

/-- `cppDes_iff`, direction (⇒): a normal return means verify accepts the bytes -/
theorem cppDes_verifies (bytes : Array UInt8) (hsz : bytes.size < 2 ^ 63) (fs : Fields) (h : cppDeserialize bytes = .ok fs) :
    (init (garbageParser 10) bytes 1).2 = true ∧ (verify (init (garbageParser 10) bytes 1).1).2.1 = true := by
  unfold cppDeserialize at h
  obtain ⟨hi, h⟩ := walk_guard h
  obtain ⟨_, hF, _⟩ := init_inv (garbageParser 10) walk_garbage_alloc (by decide) bytes hsz 1 hi
  have hacc := cppDesP_accept _ hF.shape hF.ptype (by rw [hF.maxDepth]; decide) fs h
  rw [hF.buf, hF.maxDepth] at hacc
  obtain ⟨fs', hwf, henc⟩ := walk_accept_obj hacc
  exact (verify_iff (garbageParser 10) walk_garbage_alloc (by decide) bytes hsz .object).mpr ⟨_, hwf, henc⟩

/-- **`Binson::deserialize` returns normally exactly when verify accepts** (arbitrary bytes; the
    depth-10 parser of overloads 1 and 2) -/
theorem cppDes_iff (bytes : Array UInt8) (hsz : bytes.size < 2 ^ 63) :
    (∃ fs, cppDeserialize bytes = .ok fs) ↔
    ((init (garbageParser 10) bytes 1).2 = true ∧ (verify (init (garbageParser 10) bytes 1).1).2.1 = true) :=
  ⟨fun ⟨fs, h⟩ => cppDes_verifies bytes hsz fs h, cppDes_of_verify' bytes hsz⟩

/-- consequently a normal return yields exactly the decoded tree of a well-formed document, and
    serializing it reproduces the input -/
theorem cppDes_ok_canonical (bytes : Array UInt8) (hsz : bytes.size < 2 ^ 63) (fs : Fields) (h : cppDeserialize bytes = .ok fs) :
    wfDoc .object 10 (.obj fs) = true ∧ encode (.obj fs) = bytes.toList ∧ cppSerialize fs = bytes.toList := by
  obtain ⟨hi, hv⟩ := cppDes_verifies bytes hsz fs h
  obtain ⟨fs', h1, h2, h3, h4⟩ := cppDes_of_verify bytes hsz hi hv
  rw [h] at h1
  simp only [Except.ok.injEq] at h1
  subst h1
  exact ⟨h3, h4, h2⟩

/-- **overload 3 on a parser that has been used before, arbitrary bytes**: on any shaped object
    parser (whatever its history), `Binson::deserialize(binson_parser*)` returns normally exactly
    when its buffer is the encoding of a well-formed object document fitting its depth
    configuration - and then it returns that document's tree -/
theorem cppDesP_iff (W : Parser) (hs : Shape W) (hpt : W.ptype = 1) (hmd255 : W.maxDepth ≤ 255) (fs : Fields) :
    cppDeserializeP W = .ok fs ↔ (wfDoc .object W.maxDepth (.obj fs) = true ∧ encode (.obj fs) = W.buf.toList) := by
  constructor
  · intro h
    obtain ⟨fs', hwf, henc⟩ := walk_accept_obj (cppDesP_accept W hs hpt hmd255 fs h)
    have := cppDesP_history_free W hs fs' W.maxDepth (by rw [henc]) hpt rfl hmd255 hwf
    rw [h] at this
    simp only [Except.ok.injEq] at this
    subst this
    exact ⟨hwf, henc⟩
  · rintro ⟨hwf, henc⟩
    exact cppDesP_history_free W hs fs W.maxDepth (by rw [henc]) hpt rfl hmd255 hwf

end Binson
