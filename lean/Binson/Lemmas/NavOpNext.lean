/-
  Layer 4: `binson_parser_next` and `binson_parser_field` refine the cursor's `next` and
  lookup steps.
-/
import Binson.Lemmas.NavOpValue
namespace Binson

/-- packaging: a machine step and a cursor step (of the cursor written as `c0`) that land in the invariant again -/
theorem obs_agree {p : Parser} {c c0 : Cursor} {op : COp} {p' : Parser} {b : Bool} {rw : Option Span} {c' : Cursor} {res : CRes}
    (hm : machNav p op = (p', b, rw)) (hce : c = c0) (hc : c0.step op = (c', res)) (hb : b = res.ok)
    (hr : rw = if res.ok then res.raw else none)
    (hi : ∀ it, res.item = some it → ItemMatches p' it) {L' : RLevel} {Ls' : List RLevel} {pend' : Option Value}
    (hrun : Run p' c' L' Ls' pend') :
    Obs p c op ∧ Agree (machNav p op).1 (c.step op).1 := by
  unfold Obs
  rw [hm, (congrArg (fun x => x.step op) hce).trans hc]
  exact ⟨⟨hb, hr, hrun.err, hrun.shape.hnf, hrun.shape.hno, hrun.cdepth.symm, hi⟩, Agree.run _ _ _ hrun⟩

namespace Run

variable {p : Parser} {c : Cursor} {L : RLevel} {Ls : List RLevel} {pend : Option Value}

theorem top_obj (h : Run p c L Ls pend) (ha : L.arrs = []) : ∃ fs, L.base = some fs := by
  have hb := h.base
  cases hbase : L.base with
  | some fs => exact ⟨fs, rfl⟩
  | none =>
    cases Ls with
    | nil => exact absurd ha (hb.2 hbase)
    | cons _ _ => exact absurd hbase hb.1

theorem tail_le (h : Run p c L Ls pend) : (tailBytes (flat (L :: Ls))).length ≤ p.size := by
  cases pend with
  | none =>
    have := rem_len h.shape h.pend.1
    omega
  | some v =>
    have := rem_len h.shape h.pend.2.1
    simp only [List.length_append] at this
    omega

theorem step_next (h : Run p c L Ls pend) : Obs p c .next ∧ Agree (machNav p .next).1 (c.step .next).1 := by
  have hm : machNav p .next = ((advance p .value none).p, (advance p .value none).ret, none) := rfl
  have hle := h.tail_le
  obtain ⟨pv, b, arrs⟩ := L
  cases arrs with
  | nil =>
    obtain ⟨fs, hb⟩ := h.top_obj rfl
    simp only at hb
    subst hb
    cases fs with
    | nil =>
      obtain ⟨e, hr⟩ := h.value_obj_nil none
      exact obs_agree hm h.c_eq (step_obj_nil _ _ _ _ _ _ (Or.inl rfl)) e rfl (fun it hi => by cases hi) hr
    | cons n v r =>
      obtain ⟨e, hr, hi, _⟩ := h.value_obj_read none (fun nm hnm => by cases hnm)
      exact obs_agree hm h.c_eq (step_obj_cons _ _ _ _ _ _ _ _ _ (Or.inl rfl) hle) e rfl
        (fun it hit => by cases hit; exact hi) hr
  | cons xs ar =>
    cases xs with
    | nil =>
      obtain ⟨e, hr⟩ := h.value_arr_nil none
      exact obs_agree hm h.c_eq (step_next_arr_nil _ _ _ _ _ _ _) e rfl (fun it hi => by cases hi) hr
    | cons v r =>
      obtain ⟨e, hr, hi⟩ := h.value_arr_read none
      exact obs_agree hm h.c_eq (step_next_arr_cons _ _ _ _ _ _ _ _ _ hle) e rfl
        (fun it hit => by cases hit; exact hi) hr

theorem fieldLoop_succ (f : Nat) (p : Parser) (nm : List UInt8) :
    fieldLoop (f + 1) p nm =
      if !(advance p .value (some nm)).ret then ((advance p .value (some nm)).p, false) else
      if cmpBytes nm (curNameBytes (advance p .value (some nm)).p) = 0 then ((advance p .value (some nm)).p, true)
      else if cmpBytes nm (curNameBytes (advance p .value (some nm)).p) < 0 then ((advance p .value (some nm)).p, false)
      else fieldLoop f (advance p .value (some nm)).p nm := by
  rw [fieldLoop]

/-- the lookup loop against the cursor's `dropWhile` -/
theorem field_loop (nm : List UInt8) : ∀ (fs : Fields) (f : Nat) (p : Parser) (c : Cursor) (pv : Option Bytes) (Ls : List RLevel)
    (pend : Option Value), Run p c ⟨pv, some fs, []⟩ Ls pend → (encFields fs).length + 1 ≤ f →
    (fieldLoop f p nm).2 = (c.step (.field nm)).2.ok ∧ (c.step (.field nm)).2.raw = none ∧
    (∀ it, (c.step (.field nm)).2.item = some it → ItemMatches (fieldLoop f p nm).1 it) ∧
    ∃ L' pend', Run (fieldLoop f p nm).1 (c.step (.field nm)).1 L' Ls pend'
  | .nil, f, p, c, pv, Ls, pend, h, hf => by
    obtain ⟨f', rfl⟩ : ∃ f', f = f' + 1 := ⟨f - 1, by omega⟩
    obtain ⟨e, hr⟩ := h.value_obj_nil (some nm)
    rw [fieldLoop_succ, e, (congrArg (fun x => x.step (.field nm)) h.c_eq).trans (step_obj_nil _ _ _ _ _ _ (Or.inr ⟨nm, rfl⟩))]
    exact ⟨rfl, rfl, (fun it hi => by cases hi), _, _, hr⟩
  | .cons n v r, f, p, c, pv, Ls, pend, h, hf => by
    obtain ⟨f', rfl⟩ : ∃ f', f = f' + 1 := ⟨f - 1, by omega⟩
    have hle := h.tail_le
    have hce := congrArg (fun x => x.step (.field nm)) h.c_eq
    by_cases hov : cmpBytes n nm > 0
    · obtain ⟨e, hr⟩ := h.value_obj_over nm hov
      have hlt : bytesLt n nm = false := by
        cases hb : bytesLt n nm with
        | false => rfl
        | true => have := cmpBytes_neg_of_lt n nm hb; omega
      have hne : n ≠ nm := by
        intro he; have := (cmpBytes_eq_zero n nm).mpr he; omega
      rw [fieldLoop_succ, e, hce.trans (step_field_over _ _ _ _ _ _ _ _ _ hlt hne)]
      exact ⟨rfl, rfl, (fun it hi => by cases hi), _, _, hr⟩
    · obtain ⟨e, hr, hi, hn⟩ := h.value_obj_read (some nm) (fun nm' hnm' => by cases hnm'; exact hov)
      rw [fieldLoop_succ, e, hn]
      simp only [Bool.not_true, Bool.false_eq_true, if_false]
      by_cases h0 : cmpBytes nm n = 0
      · have hnm : nm = n := (cmpBytes_eq_zero nm n).mp h0
        subst hnm
        rw [if_pos h0, hce.trans (step_obj_cons _ _ _ _ _ _ _ _ _ (Or.inr rfl) hle)]
        exact ⟨rfl, rfl, (fun it hit => by cases hit; exact hi), _, _, hr⟩
      · rw [if_neg h0]
        have hpos : ¬ cmpBytes nm n < 0 := by
          intro hlt; exact hov ((cmpBytes_pos_lt n nm).mpr ((cmpBytes_neg_lt nm n).mp hlt))
        rw [if_neg hpos]
        have hlt : bytesLt n nm = true := by
          apply (cmpBytes_pos_lt nm n).mp; omega
        rw [hce.trans (step_field_skip _ _ _ _ _ _ _ _ _ _ hlt hle)]
        have hh1 : 1 ≤ hdrLen n.length := by unfold hdrLen; omega
        exact field_loop nm r f' (advance p .value (some nm)).p _ (some n) Ls _ hr
          (by rw [encFields_cons_length] at hf; omega)

theorem step_field (h : Run p c L Ls pend) (nm : Bytes) (ha : c.allowed (.field nm) = true) :
    Obs p c (.field nm) ∧ Agree (machNav p (.field nm)).1 (c.step (.field nm)).1 := by
  have hm : machNav p (.field nm) = ((fieldLoop (p.size + 2) p nm).1, (fieldLoop (p.size + 2) p nm).2, none) := rfl
  obtain ⟨pv, b, arrs⟩ := L
  cases arrs with
  | cons xs ar =>
    rw [h.c_eq, flat_arr, allowed_field] at ha
    cases ha
  | nil =>
    obtain ⟨fs, hb⟩ := h.top_obj rfl
    simp only at hb
    subst hb
    have hle := h.tail_le
    rw [tail_obj] at hle
    simp only [List.length_append] at hle
    obtain ⟨h1, h2, h3, L', pend', h4⟩ := field_loop nm fs (p.size + 2) p c pv Ls pend h (by omega)
    exact obs_agree hm rfl (rfl : c.step (.field nm) = ((c.step (.field nm)).1, (c.step (.field nm)).2)) h1
      (show none = if (c.step (.field nm)).2.ok then (c.step (.field nm)).2.raw else none by rw [h2]; simp) h3 h4

end Run

end Binson
