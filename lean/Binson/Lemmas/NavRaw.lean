/-
  Layer 4: `get_raw` (enter + leave of the pending container).
-/
import Binson.Lemmas.NavOps
namespace Binson

theorem getRaw_scalar {p : Parser} (he : p.err = .none) (h1 : (p.getLvl p.cur).ctype ≠ .object) (h2 : (p.getLvl p.cur).ctype ≠ .array) :
    getRaw p = (p, false, ⟨p.used, 0⟩) := by
  unfold getRaw
  simp [he, h1, h2]

theorem getRaw_obj {p : Parser} (he : p.err = .none) (ht : (p.getLvl p.cur).ctype = .object)
    (h1 : (advance p .enterObj none).ret = true) (h2 : (advance (advance p .enterObj none).p .leaveObj none).ret = true) :
    getRaw p = ((advance (advance p .enterObj none).p .leaveObj none).p, true,
      ⟨p.used, (advance (advance p .enterObj none).p .leaveObj none).p.used - p.used⟩) := by
  unfold getRaw
  simp [he, ht, h1, h2]

theorem getRaw_arr {p : Parser} (he : p.err = .none) (ht : (p.getLvl p.cur).ctype = .array)
    (h1 : (advance p .enterArr none).ret = true) (h2 : (advance (advance p .enterArr none).p .leaveArr none).ret = true) :
    getRaw p = ((advance (advance p .enterArr none).p .leaveArr none).p, true,
      ⟨p.used, (advance (advance p .enterArr none).p .leaveArr none).p.used - p.used⟩) := by
  unfold getRaw
  simp [he, ht, h1, h2]

namespace Run

variable {p : Parser} {c : Cursor} {L : RLevel} {Ls : List RLevel} {pend : Option Value}

theorem step_raw (h : Run p c L Ls pend) (ha : c.allowed .raw = true) :
    Obs p c .raw ∧ Agree (machNav p .raw).1 (c.step .raw).1 := by
  have hm0 : machNav p .raw = ((getRaw p).1, (getRaw p).2.1, if (getRaw p).2.1 then some (getRaw p).2.2 else none) := rfl
  obtain ⟨f, fr, hfl⟩ := flat_ne_nil h.base
  have hce := h.c_eq
  have hcur := h.cur
  cases pend with
  | none =>
    obtain ⟨_, _, h3⟩ := h.pend
    rcases h3 with h3 | ⟨n, h3, h4, h5, h6⟩
    · rw [h3, hfl] at hce; rw [hce, allowed_raw] at ha; cases ha
    · rw [getRaw_scalar h.err (by rw [hcur, h4]; exact h5) (by rw [hcur, h4]; exact h6)] at hm0
      simp only [Bool.false_eq_true, if_false] at hm0
      rw [h3] at hce
      have hc : c.step .raw = (mkCur c.arrayRoot p.size (flat (L :: Ls)) (some n), ⟨false, none, none⟩) := by
        rw [hce]; exact step_raw_scalar _ _ _ _ h5 h6
      have hr : Run p (mkCur c.arrayRoot p.size (flat (L :: Ls)) (some n)) L Ls none := by rw [← hce]; exact h
      exact obs_agree hm0 rfl hc rfl rfl (fun it hi => by cases hi) hr
  | some v =>
    obtain ⟨h1, h2, _, ⟨nm, h4⟩, h5, _, _⟩ := h.pend
    have hrl := rem_len h.shape h2
    rw [h4] at hce
    have hc : c.step .raw = (mkCur c.arrayRoot p.size (flat (L :: Ls)) none, ⟨true, none, some ⟨p.used, (encode v).length⟩⟩) := by
      rw [hce]; exact step_raw_container _ _ _ _ _ _ h1
    -- enter and leave again: back in the same entry, behind the container
    have key : ∃ p2, getRaw p = (p2, true, ⟨p.used, p2.used - p.used⟩) ∧ p2.size = p.size ∧
        Run p2 (mkCur c.arrayRoot p.size (flat (L :: Ls)) none) L Ls none := by
      cases v with
      | obj fs =>
        obtain ⟨e1, r1⟩ := h.adv_enter_obj
        obtain ⟨e2, r2⟩ := r1.adv_leave_obj
        have hsz : (advance p .enterObj none).p.size = p.size := frame_adv p .enterObj none h.shape
        rw [hsz] at r2
        exact ⟨_, getRaw_obj h.err (by rw [hcur, h5]; exact annotate_ty_obj _ _ _) e1 e2,
          by rw [frame_adv _ .leaveObj none r1.shape, hsz], r2⟩
      | arr xs =>
        obtain ⟨pv, b, arrs⟩ := L
        obtain ⟨e1, r1⟩ := h.adv_enter_arr
        have hnr : ¬ IsRootArr b arrs Ls := by
          intro ⟨a1, a2, a3⟩
          subst a1; subst a2; subst a3
          exact h.base.2 rfl rfl
        obtain ⟨e2, r2⟩ := r1.adv_leave_arr hnr
        have hsz : (advance p .enterArr none).p.size = p.size := frame_adv p .enterArr none h.shape
        rw [hsz] at r2
        exact ⟨_, getRaw_arr h.err (by rw [hcur, h5]; exact annotate_ty_arr _ _ _) e1 e2,
          by rw [frame_adv _ .leaveArr none r1.shape, hsz], r2⟩
      | _ => cases h1
    obtain ⟨p2, hg, hsz2, r2⟩ := key
    rw [hg] at hm0
    simp only [if_true] at hm0
    have hrl2 := rem_len r2.shape r2.pend.1
    rw [hsz2] at hrl2
    simp only [List.length_append] at hrl
    have hu : p2.used - p.used = (encode v).length := by omega
    rw [hu] at hm0
    exact obs_agree hm0 rfl hc rfl rfl (fun it hi => by cases hi) r2

end Run

end Binson
