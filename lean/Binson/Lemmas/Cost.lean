/-
  C16, the "linear work" sentence, in its tight form: work is bounded by the bytes a call
  ADVANCES OVER (not by the bytes that remain).  This file spells out the per-call statements; the
  proofs are in `CostAdvance`, `CostCalls`, `CostRun`, `CostLookup`.

  "Tokens processed" = callbacks made = loop iterations that log an event (`AdvRes.ev`), counted
  per public call by the counted model `Model/Counted.lean` (`nextC`, `fieldC`, ...).

  Model facts behind the shape of the statements:
  * `bytes_consumed` (`LoopSt.bc`) IS carried over from an earlier iteration for `{ } [ ]` tokens
    (`classify` returns `bc0`), but the un-read only happens for a field-name token, for which
    `_process_one` has just set it to the length of THIS token
    (`iter_overshoot_unreads_one`: `c.p.used = st.p.used + c.bc`).
  * "each `_advance_parsing` call of the `field` loop that continues has advanced ≥ 1 byte" is
    FALSE: on a `{`/`[` element of an array a VALUE-mode call returns `true` having advanced 0
    bytes (IN_ARRAY_1 → IN_ARRAY_2 toggle, 1 token).  True and proved:
    `cursor + [IN_ARRAY_2]` strictly increases (`cost_advance_value_progress`), hence
    `field`: tokens ≤ 2·bytes + 2 (`field_tokens`).  `tokens ≤ bytes + c` is false for `field`
    for every constant `c` (3 tokens per 2 bytes on `[{}{}…]`, checked below), so the traversal
    bound with `field` calls has the factor 2 as well.
  * The model runs the `field` loop on fuel `size + 2` and returns `false` SILENTLY if the fuel
    runs out (no `oof` ghost there); `field_terminates` proves that never happens.
-/
import Binson.Lemmas.CostLookup
import Binson.Model.Transcribe
namespace Binson

/-! ### per-call bounds, spelled out (`tokens + cursor before ≤ cursor after + c`) -/

theorem next_tokens (p : Parser) (h : Shape p) : (nextC p).2.2 + p.used ≤ (nextC p).1.used + 1 := (next_cost p h).cost
theorem nextEnsure_tokens (p : Parser) (t : Ty) (h : Shape p) :
    (nextEnsureC p t).2.2 + p.used ≤ (nextEnsureC p t).1.used + 1 := (nextEnsure_cost p t h).cost
theorem goIntoObject_tokens (p : Parser) (h : Shape p) :
    (goIntoObjectC p).2.2 + p.used ≤ (goIntoObjectC p).1.used + 1 := (goIntoObject_cost p h).cost
theorem goIntoArray_tokens (p : Parser) (h : Shape p) :
    (goIntoArrayC p).2.2 + p.used ≤ (goIntoArrayC p).1.used + 1 := (goIntoArray_cost p h).cost
theorem leaveObject_tokens (p : Parser) (h : Shape p) :
    (leaveObjectC p).2.2 + p.used ≤ (leaveObjectC p).1.used + 1 := (leaveObject_cost p h).cost
theorem leaveArray_tokens (p : Parser) (h : Shape p) :
    (leaveArrayC p).2.2 + p.used ≤ (leaveArrayC p).1.used + 1 := (leaveArray_cost p h).cost
theorem getRaw_tokens (p : Parser) (h : Shape p) :
    (getRawC p).2.2.2 + p.used ≤ (getRawC p).1.used + 2 := (getRaw_cost p h).cost
theorem field_tokens (p : Parser) (nm : List UInt8) (h : Shape p) :
    (fieldC p nm).2.2 + 2 * p.used ≤ 2 * (fieldC p nm).1.used + 2 := (field_cost p nm h).2.2.2
theorem fieldEnsure_tokens (p : Parser) (nm : List UInt8) (t : Ty) (h : Shape p) :
    (fieldEnsureC p nm t).2.2 + 2 * p.used ≤ 2 * (fieldEnsureC p nm t).1.used + 2 := (fieldEnsure_cost p nm t h).2.2.2

/-- the same with the subtraction of the property sentence: tokens ≤ bytes advanced over + 1 -/
theorem next_tokens' (p : Parser) (h : Shape p) : (nextC p).2.2 ≤ ((nextC p).1.used - p.used) + 1 := by
  have := next_tokens p h; have := (next_cost p h).mono; omega
theorem field_tokens' (p : Parser) (nm : List UInt8) (h : Shape p) :
    (fieldC p nm).2.2 ≤ 2 * ((fieldC p nm).1.used - p.used) + 2 := by
  have := field_tokens p nm h; have := (field_cost p nm h).2.2.1; omega

/-- `Op.Valid` only constrains `init`: for a navigation call it adds nothing -/
theorem step_used_mono_valid (p : Parser) (op : Op) (h : Shape p) (_hv : op.Valid) (hn : op.IsNav) :
    p.used ≤ (step p op).1.used := step_used_mono p op h hn

/-! ### sanity checks on concrete documents (evaluated, not part of any proof) -/

section Checks
private def mk (b : Array UInt8) (t : Nat) : Parser := (init (garbageParser 8) b t).1
private def docA : Array UInt8 := #[0x42, 0x40,0x41, 0x40,0x41, 0x40,0x41, 0x40,0x41, 0x43]   -- [{}{}{}{}]
private def docE : Array UInt8 := #[0x40, 0x14,1,0x61,0x44, 0x14,1,0x63,0x44, 0x41]          -- {a:true, c:true}

-- `next` on a `{` element of an array: returns true, 1 token, 0 bytes advanced
#guard let p := (goIntoArray (mk docA 2)).1; let r := nextC p; (r.2.1, r.2.2, r.1.used - p.used) = (true, 1, 0)
-- `field "x"` from inside `[{}{}{}{}]`: 12 tokens over 8 bytes (3 per 2): `tokens ≤ bytes + c` fails
#guard let p := (goIntoArray (mk docA 2)).1; let r := fieldC p [0x78]; (r.2.1, r.2.2, r.1.used - p.used) = (false, 12, 8)
-- lookup of "b" in {a,c}: overshoots "c", un-reads exactly that name (3 bytes): cursor 5 = start of the name "c"
#guard let p := (goIntoObject (mk docE 1)).1; let r := fieldC p [0x62]; (r.2.1, r.2.2, r.1.used, r.1.err) = (false, 2, 5, Err.none)
-- ... and the next lookup re-reads exactly that name
#guard let p := (goIntoObject (mk docE 1)).1; let q := (fieldC p [0x62]).1; let r := fieldC q [0x63]; (r.2.1, r.2.2, r.1.used) = (true, 2, 9)
-- verify: 6 tokens for 10 bytes
#guard (verify (mk docE 1)).2.2.length = 6
end Checks

end Binson
