/-
  Layer 1: every public parser call preserves the shape invariant (hence never sets the
  out-of-bounds ghost) and hands back only spans inside the buffer.
-/
import Binson.Lemmas.Advance
import Binson.Lemmas.StreamDefs
namespace Binson

/-- what `reset` decides; it reads the size, the root type and the first and last byte only -/
inductive ResetOut | range | format | untyped | ok (d : Nat)

def resetOut (size ptype : Nat) (buf : Array UInt8) : ResetOut :=
  if size < 2 then .range
  else if ptype = 1 then (if buf.getD 0 0 = 0x40 ∧ buf.getD (size - 1) 0 = 0x41 then .ok 0 else .format)
  else if ptype = 2 then (if buf.getD 0 0 = 0x42 ∧ buf.getD (size - 1) 0 = 0x43 then .ok 1 else .format)
  else .untyped

def ResetOut.apply (p : Parser) : ResetOut → Parser × Bool
  | .range => ({ p with depth := 0, used := 0, cur := 0, err := .range }, false)
  | .format => ({ p with depth := 0, used := 0, cur := 0, err := .format }, false)
  | .untyped => ({ p with depth := 0, used := 0, cur := 0 }, false)
  | .ok d => (wipe { p with depth := 0, used := 0, cur := 0 } d, true)

theorem reset_eq (p : Parser) (hmd : p.maxDepth ≠ 0) (hbs : p.buf.size = p.size) :
    reset p = (resetOut p.size p.ptype p.buf).apply p := by
  unfold reset resetOut
  rw [if_neg hmd]
  by_cases h2 : p.size < 2
  · simp only [h2, if_true]; rfl
  · have t0 : ({ p with depth := 0, used := 0, cur := 0 } : Parser).touchBuf 0 1 = { p with depth := 0, used := 0, cur := 0 } :=
      touchBuf_of_le (by show 0 + 1 ≤ p.buf.size; omega)
    have t1 : ({ p with depth := 0, used := 0, cur := 0 } : Parser).touchBuf (p.size - 1) 1 = { p with depth := 0, used := 0, cur := 0 } :=
      touchBuf_of_le (by show p.size - 1 + 1 ≤ p.buf.size; omega)
    simp only [h2, if_false, t0, t1, Parser.byte]
    by_cases hp1 : p.ptype = 1
    · by_cases hb : p.buf.getD 0 0 = 0x40 ∧ p.buf.getD (p.size - 1) 0 = 0x41
      · simp only [if_pos hp1, if_pos hb, decide_eq_true hb, Bool.not_true, Bool.false_eq_true, if_false]; rfl
      · simp only [if_pos hp1, if_neg hb, decide_eq_false hb, Bool.not_false, if_true]; rfl
    · by_cases hp2 : p.ptype = 2
      · by_cases hb : p.buf.getD 0 0 = 0x42 ∧ p.buf.getD (p.size - 1) 0 = 0x43
        · simp only [if_neg hp1, if_pos hp2, if_pos hb, decide_eq_true hb, Bool.not_true, Bool.false_eq_true, if_false]; rfl
        · simp only [if_neg hp1, if_pos hp2, if_neg hb, decide_eq_false hb, Bool.not_false, if_true]; rfl
      · simp only [if_neg hp1, if_neg hp2]; rfl

theorem resetOut_ok {size t : Nat} {buf : Array UInt8} {d : Nat} (h : resetOut size t buf = .ok d) :
    2 ≤ size ∧ ((t = 1 ∧ d = 0 ∧ buf.getD 0 0 = 0x40 ∧ buf.getD (size - 1) 0 = 0x41) ∨
                (t = 2 ∧ d = 1 ∧ buf.getD 0 0 = 0x42 ∧ buf.getD (size - 1) 0 = 0x43)) := by
  unfold resetOut at h
  by_cases h2 : size < 2
  · rw [if_pos h2] at h; cases h
  rw [if_neg h2] at h
  refine ⟨by omega, ?_⟩
  by_cases h1 : t = 1
  · rw [if_pos h1] at h
    by_cases hb : buf.getD 0 0 = 0x40 ∧ buf.getD (size - 1) 0 = 0x41
    · rw [if_pos hb] at h; cases h; exact Or.inl ⟨h1, rfl, hb⟩
    · rw [if_neg hb] at h; cases h
  rw [if_neg h1] at h
  by_cases h2' : t = 2
  · rw [if_pos h2'] at h
    by_cases hb : buf.getD 0 0 = 0x42 ∧ buf.getD (size - 1) 0 = 0x43
    · rw [if_pos hb] at h; cases h; exact Or.inr ⟨h2', rfl, hb⟩
    · rw [if_neg hb] at h; cases h
  · rw [if_neg h2'] at h; cases h

theorem resetOut_untyped {size t : Nat} {buf : Array UInt8} (h : resetOut size t buf = .untyped) : t ≠ 1 ∧ t ≠ 2 := by
  unfold resetOut at h
  by_cases h2 : size < 2
  · rw [if_pos h2] at h; cases h
  rw [if_neg h2] at h
  by_cases h1 : t = 1
  · rw [if_pos h1] at h
    split at h <;> cases h
  rw [if_neg h1] at h
  by_cases h2' : t = 2
  · rw [if_pos h2'] at h
    split at h <;> cases h
  · exact ⟨h1, h2'⟩

/-- a parser object as the caller provides it: any contents at all (uninitialised memory or a
    previous use), with a state array of `maxDepth ≥ 1` entries -/
structure Alloc (g : Parser) : Prop where
  hlv : g.levels.size = g.maxDepth
  hmd : 1 ≤ g.maxDepth
  hnf : g.fault = false
  hno : g.oof = false

theorem Shape.alloc {p : Parser} (h : Shape p) : Alloc p := ⟨h.hlv, h.hmd, h.hnf, h.hno⟩

theorem getLvl_of_replicate (q : Parser) (n : Nat) (h : q.levels = Array.replicate n Level.zero) (i : Nat) :
    q.getLvl i = Level.zero := by
  unfold Parser.getLvl
  rw [h]
  simp only [Array.getD_eq_getD_getElem?]
  by_cases hi : i < n
  · simp [hi]
  · simp [hi]

theorem reset_shape_gen (p : Parser) (ha : Alloc p) (hbs : p.buf.size = p.size) (hsz : p.size < 2 ^ 63)
    (hold : p.err = .none → p.ptype ≠ 1 → p.ptype ≠ 2 → ∀ i, (p.getLvl i).SpansOk p.size) :
    Shape (reset p).1 := by
  have hmd := ha.hmd
  rw [reset_eq p (by omega) hbs]
  have base : ∀ e, (e = .none → ∀ i, (p.getLvl i).SpansOk p.size) →
      Shape { p with depth := 0, used := 0, cur := 0, err := e } := fun e he =>
    ⟨ha.hlv, ha.hmd, Nat.zero_le _, rfl, Nat.zero_le _, hbs, hsz, ha.hnf, ha.hno, he⟩
  cases hro : resetOut p.size p.ptype p.buf with
  | range | format => exact base _ (fun h => by cases h)
  | untyped => exact base p.err (fun he => hold he (resetOut_untyped hro).1 (resetOut_untyped hro).2)
  | ok d =>
    have hd : d ≤ 1 := by rcases (resetOut_ok hro).2 with h | h <;> omega
    show Shape (wipe _ d)
    refine ⟨by simp [wipe, ha.hlv], ha.hmd, by show d ≤ p.maxDepth; omega, ?_, Nat.zero_le _, hbs, hsz, by simp [wipe, ha.hnf, ha.hlv], ha.hno, ?_⟩
    · show 0 = if d > 0 then d - 1 else 0
      split <;> omega
    · intro _ i
      rw [getLvl_of_replicate _ p.levels.size rfl]; exact Level.zero_spansOk _

theorem reset_shape (p : Parser) (h : Shape p) : Shape (reset p).1 :=
  reset_shape_gen p h.alloc h.hbs h.hsz (fun he _ _ i => h.hsp he i)

theorem reset_ok_err (p : Parser) (hmd : p.maxDepth ≠ 0) (hbs : p.buf.size = p.size) :
    (reset p).2 = true → (reset p).1.err = .none := by
  rw [reset_eq p hmd hbs]
  cases resetOut p.size p.ptype p.buf <;> intro h <;> first | rfl | cases h

theorem reset_frame (p : Parser) (hmd : p.maxDepth ≠ 0) (hbs : p.buf.size = p.size) : p.Frame (reset p).1 := by
  rw [reset_eq p hmd hbs]
  cases resetOut p.size p.ptype p.buf <;> exact ⟨rfl, rfl, rfl, rfl, by simp [ResetOut.apply, wipe]⟩

/-- `binson_parser_init_object` / `_array` on ANY allocated object, accepted or rejected -/
theorem init_shape (g : Parser) (ha : Alloc g) (buf : Array UInt8) (t : Nat) (ht : t = 1 ∨ t = 2) (hb : buf.size < 2 ^ 63) :
    Shape (init g buf t).1 := by
  unfold init
  rw [if_neg (by have := ha.hmd; omega)]
  apply reset_shape_gen
  · exact ⟨ha.hlv, ha.hmd, ha.hnf, ha.hno⟩
  · rfl
  · exact hb
  · intro _ h1 h2; rcases ht with rfl | rfl
    · exact absurd rfl h1
    · exact absurd rfl h2


theorem adv_shape (p : Parser) (s : Scan) (sn : Option (List UInt8)) (h : Shape p) : Shape (advance p s sn).p :=
  (advance_spec p s sn h).shape

theorem verify_shape (p : Parser) (h : Shape p) : Shape (verify p).1 := by
  unfold verify
  have hr := reset_shape p h
  generalize reset p = r at hr
  obtain ⟨q, ok⟩ := r
  simp only at hr ⊢
  cases ok
  · exact hr
  · simp only [Bool.not_true, Bool.false_eq_true, if_false]
    have ha := adv_shape q .verify none hr
    split
    · exact reset_shape _ ha
    · exact ha

/-- `get_raw` on a container: enter it (`a`), leave it (`b`), report the bytes in between -/
def rawVia (p : Parser) (a b : Scan) : Parser × Bool × Span :=
  let r := advance p a none
  if !r.ret then (r.p, false, ⟨p.used, 0⟩) else
  let r := advance r.p b none
  if !r.ret then (r.p, false, ⟨p.used, 0⟩) else (r.p, true, ⟨p.used, r.p.used - p.used⟩)

theorem getRaw_eq (p : Parser) : getRaw p =
    if p.err ≠ .none then (p, false, ⟨0, 0⟩)
    else if (p.getLvl p.cur).ctype = .object then rawVia p .enterObj .leaveObj
    else if (p.getLvl p.cur).ctype = .array then rawVia p .enterArr .leaveArr
    else (p, false, ⟨p.used, 0⟩) := rfl

theorem rawVia_ind {P : Parser → Prop} (hadv : ∀ p s sn, P p → P (advance p s sn).p) (p : Parser) (a b : Scan) (h : P p) :
    P (rawVia p a b).1 := by
  unfold rawVia
  simp only
  split
  · exact hadv p a none h
  · split <;> exact hadv _ b none (hadv p a none h)

theorem fieldLoop_ind {P : Parser → Prop} (hadv : ∀ p s sn, P p → P (advance p s sn).p)
    (f : Nat) (p : Parser) (nm : List UInt8) (h : P p) : P (fieldLoop f p nm).1 := by
  induction f generalizing p with
  | zero => exact h
  | succ f ih =>
    unfold fieldLoop
    have ha := hadv p .value (some nm) h
    simp only
    split
    · exact ha
    · split
      · exact ha
      · split
        · exact ha
        · exact ih _ ha

/-- Every navigation call is a composition of `_advance_parsing` calls and of raising an error: a
    property of the parser object that implies `Shape` and is kept by those two is kept by the call. -/
theorem step_nav_ind {P : Parser → Prop} (hS : ∀ p, P p → Shape p)
    (hadv : ∀ p s sn, P p → P (advance p s sn).p)
    (herr : ∀ p (e : Err), e ≠ .none → P p → P { p with err := e })
    (p : Parser) (op : Op) (hn : op.IsNav) (h : P p) : P (step p op).1 := by
  have adv := fun s sn => hadv p s sn h
  cases op with
  | init _ _ | reset | verify => exact hn.elim
  | next => exact adv .value none
  | goIntoObject => exact adv .enterObj none
  | goIntoArray => exact adv .enterArr none
  | nextEnsure t =>
    show P (nextEnsure p t).1
    unfold nextEnsure next
    simp only
    split
    · exact adv .value none
    · split
      · exact herr _ _ (by simp) (adv .value none)
      · exact adv .value none
  | field nm => exact fieldLoop_ind hadv _ p nm h
  | fieldEnsure nm t =>
    show P (fieldEnsure p nm t).1
    have hf : P (field p nm).1 := fieldLoop_ind hadv _ p nm h
    unfold fieldEnsure
    generalize field p nm = r at hf
    obtain ⟨q, ok⟩ := r
    cases ok
    · exact hf
    · simp only [Bool.not_true, Bool.false_eq_true, if_false]
      split
      · exact hf
      · exact herr _ _ (by simp) hf
  | leaveObject | leaveArray =>
    simp only [step, leaveObject, leaveArray, touchLvl_of_lt (hS p h).lvlIdx_lt]
    split
    · exact h
    · split <;> exact adv _ none
  | getName =>
    show P (getName p).1
    unfold getName
    split
    · exact h
    · split
      · exact h
      · exact herr _ _ (by simp) h
  | getRaw =>
    show P (getRaw p).1
    rw [getRaw_eq]
    split
    · exact h
    · split
      · exact rawVia_ind hadv p _ _ h
      · split
        · exact rawVia_ind hadv p _ _ h
        · exact h
  | getDepth | getType | getStringBbuf | getBytesBbuf | getInteger | getBoolean | getDouble | stringEquals _ => exact h
/-- arguments the API admits: `init_object`/`init_array` pass 1 / 2; a buffer is smaller than 2^63 bytes -/
def Op.Valid : Op → Prop
  | .init buf t => (t = 1 ∨ t = 2) ∧ buf.size < 2 ^ 63
  | _ => True

theorem step_shape (p : Parser) (op : Op) (h : Shape p) (hv : op.Valid) : Shape (step p op).1 := by
  cases op with
  | init buf t => exact init_shape p h.alloc buf t hv.1 hv.2
  | reset => exact reset_shape p h
  | verify => exact verify_shape p h
  | _ => exact step_nav_ind (fun _ h => h) adv_shape (fun _ e he h => h.withErr e he) p _ trivial h

theorem run_ind {P : Parser → Prop} : ∀ (ops : List Op) (p : Parser), (∀ q, ∀ op ∈ ops, P q → P (step q op).1) → P p → P (run p ops)
  | [], _, _, h => h
  | op :: r, p, hs, h =>
    run_ind r (step p op).1 (fun q o ho => hs q o (List.mem_cons_of_mem _ ho)) (hs p op List.mem_cons_self h)

theorem run_shape (ops : List Op) (p : Parser) (h : Shape p) (hv : ∀ op ∈ ops, op.Valid) : Shape (run p ops) :=
  run_ind ops p (fun q op ho hq => step_shape q op hq (hv op ho)) h

def Ret.SpansInside (size : Nat) : Ret → Prop
  | .span (some s) => s.off + s.len ≤ size
  | .raw true s => s.off + s.len ≤ size
  | _ => True

theorem frame_adv (p : Parser) (s : Scan) (sn : Option (List UInt8)) (h : Shape p) : (advance p s sn).p.size = p.size :=
  (advance_spec p s sn h).frame.1

theorem getName_size (p : Parser) : (getName p).1.size = p.size := by
  unfold getName
  split
  · rfl
  · split <;> rfl

theorem getRaw_span (p : Parser) (h : (getRaw p).2.1 = true) :
    (getRaw p).2.2 = ⟨p.used, (getRaw p).1.used - p.used⟩ := by
  have via : ∀ a b, (rawVia p a b).2.1 = true → (rawVia p a b).2.2 = ⟨p.used, (rawVia p a b).1.used - p.used⟩ := by
    intro a b h
    unfold rawVia at h ⊢
    simp only at h ⊢
    split
    · rename_i h1; rw [if_pos h1] at h; cases h
    · split
      · rename_i h1 h2; rw [if_neg h1, if_pos h2] at h; cases h
      · rfl
  rw [getRaw_eq] at h ⊢
  split
  · rename_i h1; rw [if_pos h1] at h; cases h
  · split
    · rename_i h1 h2; rw [if_neg h1, if_pos h2] at h; exact via _ _ h
    · split
      · rename_i h1 h2 h3; rw [if_neg h1, if_neg h2, if_pos h3] at h; exact via _ _ h
      · rename_i h1 h2 h3; rw [if_neg h1, if_neg h2, if_neg h3] at h; cases h
theorem step_spans (p : Parser) (op : Op) (h : Shape p) (hv : op.Valid) : (step p op).2.SpansInside (step p op).1.size := by
  cases op with
  | getName =>
    show Ret.SpansInside (getName p).1.size (Ret.span (getName p).2)
    rw [getName_size]
    unfold getName
    split
    · trivial
    · rename_i he
      have he' : p.err = .none := by simpa using he
      split
      · rename_i s hs
        exact (h.hsp he' p.cur).1 s hs
      · trivial
  | getStringBbuf | getBytesBbuf =>
    -- both hand back the stored value span, under a guard that includes "no error"
    simp only [step, getStringBbuf, getBytesBbuf]
    split
    · rename_i hc
      unfold curSpan
      split
      · rename_i s hs
        exact (h.hsp hc.1 p.cur).2 s hs
      · trivial
    · trivial
  | getRaw =>
    -- the span starts at the old cursor and ends at the new one; the buffer size never changes
    obtain ⟨hq, hsz⟩ := step_nav_ind (P := fun q => Shape q ∧ q.size = p.size) (fun _ h => h.1)
      (fun q s sn h => ⟨adv_shape q s sn h.1, (frame_adv q s sn h.1).trans h.2⟩)
      (fun _ e he h => ⟨h.1.withErr e he, h.2⟩) p .getRaw trivial ⟨h, rfl⟩
    show Ret.SpansInside (getRaw p).1.size (Ret.raw (getRaw p).2.1 (getRaw p).2.2)
    cases hok : (getRaw p).2.1
    · trivial
    · have hus := h.hus
      rw [getRaw_span p hok]
      show p.used + ((getRaw p).1.used - p.used) ≤ (getRaw p).1.size
      have hqu : (getRaw p).1.used ≤ (getRaw p).1.size := hq.hus
      have hsz' : (getRaw p).1.size = p.size := hsz
      omega
  | _ => trivial

/-- any sequence of public calls from a shaped parser never faults, and every call in it hands back
    only spans inside the buffer the parser then has -/
theorem run_safe (p : Parser) (h : Shape p) (ops : List Op) (hv : ∀ op ∈ ops, op.Valid) :
    (run p ops).fault = false ∧
    ∀ (pre : List Op) (op : Op) (post : List Op), ops = pre ++ op :: post →
      let q := run p pre
      (step q op).2.SpansInside (step q op).1.size ∧ (step q op).1.used ≤ (step q op).1.size ∧
      (step q op).1.buf.size = (step q op).1.size := by
  refine ⟨(run_shape ops p h hv).hnf, ?_⟩
  intro pre op post e q
  have hpre : ∀ o ∈ pre, o.Valid := fun o ho => hv o (by rw [e]; exact List.mem_append_left _ ho)
  have hop : op.Valid := hv op (by rw [e]; simp)
  have hq : Shape q := run_shape pre p h hpre
  have hs := step_shape q op hq hop
  exact ⟨step_spans q op hq hop, hs.hus, hs.hbs⟩

end Binson
