/-
  Layer 4: the VALUE mode (`next`, field lookup) AT the originating level, with the level
  in its normal state (nothing pending): the next child is read and made current (a container is
  left unconsumed in front of the cursor).
-/
import Binson.Lemmas.NavLeave
namespace Binson

theorem pendLevel_fields (l : Level) :
    (pendLevel l).ad = l.ad ∧ (pendLevel l).name = l.name ∧ (pendLevel l).ctype = l.ctype ∧
    (pendLevel l).flags = if l.flags = .expField then .expValue else l.flags := by
  unfold pendLevel; split <;> simp [*]

/-- VALUE mode with an empty scan word (after the field name) or at an array level: the loop stops in
    front of a container value, which becomes pending -/
theorem stop_at_container (v : Value) (hc : v.isContainer = true) {st : LoopSt} {sn : Option (List UInt8)} {oa od : Nat}
    (hO : AtOrig st oa od) (rest : Bytes) (hrem : st.p.rem = encode v ++ rest)
    (hfit : fits (st.p.maxDepth - st.p.depth) (255 - (st.p.getLvl st.p.lvlIdx).ad) v = true)
    (hctx : ValCtx (st.p.getLvl st.p.lvlIdx))
    (hp : ((st.p.getLvl st.p.lvlIdx).flags = .expValue ∧ st.scan = none) ∨
          ((st.p.getLvl st.p.lvlIdx).flags = .arr1 ∧ st.scan = some .value)) :
    ∃ st', iter st sn oa od = (st', .stop) ∧ AtOrig st' oa od ∧ Kept st st' ∧ st'.p.rem = st.p.rem ∧
      st'.p.used = st.p.used ∧
      (st'.p.getLvl st.p.lvlIdx).name = (st.p.getLvl st.p.lvlIdx).name ∧
      (st'.p.getLvl st.p.lvlIdx).ctype = (annotate none 0 v).item.ty ∧
      ((st.p.getLvl st.p.lvlIdx).flags = .expValue → (st'.p.getLvl st.p.lvlIdx).flags = .expValue) ∧
      ((st.p.getLvl st.p.lvlIdx).flags = .arr1 → (st'.p.getLvl st.p.lvlIdx).flags = .arr2) := by
  have hsh := hO.shape
  have hsc : (if (st.p.getLvl st.p.lvlIdx).flags = .arr1 then clear st.scan .value else st.scan) = none := by
    rcases hp with ⟨hf, hs⟩ | ⟨hf, hs⟩
    · rw [hf, hs]; rfl
    · rw [if_pos hf, hs]; rfl
  -- the BEGIN token is not consumed; it leaves the level `pendLevel lv2`
  have key : ∃ (tok : Tok) (lv2 : Level) (st' : LoopSt), iter st sn oa od = (st', .stop) ∧
      StepRes st st' .none 0 none st.p.depth (fun i => if i = st.p.lvlIdx then pendLevel lv2 else st.p.getLvl i)
        ((tok, pendLevel lv2) :: st.ev) ∧
      lv2.ad = (st.p.getLvl st.p.lvlIdx).ad ∧ lv2.name = (st.p.getLvl st.p.lvlIdx).name ∧
      lv2.ctype = (annotate none 0 v).item.ty ∧
      ((st.p.getLvl st.p.lvlIdx).flags = .expValue → lv2.flags = .expField) ∧
      ((st.p.getLvl st.p.lvlIdx).flags = .arr1 → lv2.flags = .arr2) := by
    cases v with
    | obj fs =>
      have hrem' : st.p.rem = 0x40 :: (encFields fs ++ 0x41 :: rest) := by simpa [encode] using hrem
      obtain ⟨lv1, lv2, hob, hab, b1, b2, b3, b5, _, b7⟩ :=
        blocks_begin_orig (tok := .objBegin) (d := st.p.depth) (Or.inl rfl) hctx hO.oa hO.od .object st.scan
      rw [hsc] at hab
      obtain ⟨st', i1, r1⟩ := iter_objBegin_pending (sn := sn) hsh hO.err _ hrem' lv1 lv2 none hob hab rfl
      exact ⟨_, lv2, st', i1, r1, b1, b2, b3.trans (annotate_ty_obj _ _ _).symm, b5, b7⟩
    | arr xs =>
      have hrem' : st.p.rem = 0x42 :: (encElems xs ++ 0x43 :: rest) := by simpa [encode] using hrem
      have hfit' : (1 ≤ 255 - (st.p.getLvl st.p.lvlIdx).ad) ∧
          fitsE (st.p.maxDepth - st.p.depth) (255 - (st.p.getLvl st.p.lvlIdx).ad - 1) xs = true := by
        simpa [fits] using hfit
      obtain ⟨lv1, lv2, hob, hab, b1, b2, b3, b5, _, b7⟩ :=
        blocks_begin_orig (tok := .arrBegin) (d := st.p.depth) (Or.inr rfl) hctx hO.oa hO.od .array st.scan
      rw [hsc] at hab
      obtain ⟨st', i1, r1⟩ := iter_arrBegin_pending (sn := sn) hsh hO.err _ hrem' lv1 lv2 none hob hab (by rw [b1]; omega) rfl
      exact ⟨_, lv2, st', i1, r1, b1, b2, b3.trans (annotate_ty_arr _ _ _).symm, b5, b7⟩
    | _ => cases hc
  -- pending: the field expects its value again, the array toggle stays flipped
  obtain ⟨tok, lv2, st', i1, r, b1, b2, b3, b5, b7⟩ := key
  obtain ⟨l1, l2, l3, l4⟩ := pendLevel_fields lv2
  obtain ⟨k1, k2, k3⟩ := stepRes_keeps hO r (l1.trans b1)
  refine ⟨st', i1, k1, k2, rem_of_frame (bs := []) r.frame.2.1 r.used hsh (by simp) rfl, r.used, ?_⟩
  rw [k3, l2, l3, l4]
  exact ⟨b2, b3, fun h => by rw [b5 h]; rfl, fun h => by rw [b7 h]; rfl⟩

theorem ScalarOk.congr {p q : Parser} {L : Level} {v : Value} {off : Nat} (h : ScalarOk p L v off) (hb : q.buf = p.buf)
    (hs : q.size = p.size) : ScalarOk q L v off :=
  ⟨h.ty, h.val, fun s hs' => by rw [slice_congr hb, hs]; exact h.span s hs'⟩

theorem orig_read {st : LoopSt} {sn : Option (List UInt8)} {oa od : Nat} (hO : AtOrig st oa od)
    (v : Value) (rest : Bytes) (hrem : st.p.rem = encode v ++ rest) (hwf : wfValue v = true)
    (hfit : fits (st.p.maxDepth - st.p.depth) (255 - (st.p.getLvl st.p.lvlIdx).ad) v = true)
    (hctx : ValCtx (st.p.getLvl st.p.lvlIdx))
    (hp : ((st.p.getLvl st.p.lvlIdx).flags = .expValue ∧ st.scan = none) ∨
          ((st.p.getLvl st.p.lvlIdx).flags = .arr1 ∧ st.scan = some .value)) :
    ∃ st', iter st sn oa od = (st', .stop) ∧ AtOrig st' oa od ∧ Kept st st' ∧
      (st'.p.getLvl st.p.lvlIdx).name = (st.p.getLvl st.p.lvlIdx).name ∧
      (st'.p.getLvl st.p.lvlIdx).ctype = (annotate none 0 v).item.ty ∧
      (v.isContainer = true → st'.p.rem = st.p.rem ∧ st'.p.used = st.p.used ∧
        ((st.p.getLvl st.p.lvlIdx).flags = .expValue → (st'.p.getLvl st.p.lvlIdx).flags = .expValue) ∧
        ((st.p.getLvl st.p.lvlIdx).flags = .arr1 → (st'.p.getLvl st.p.lvlIdx).flags = .arr2)) ∧
      (v.isContainer = false → st'.p.rem = rest ∧
        (st'.p.getLvl st.p.lvlIdx).flags = afterFlags (st.p.getLvl st.p.lvlIdx) false ∧
        ScalarOk st.p (st'.p.getLvl st.p.lvlIdx) v st.p.used) := by
  cases hc : v.isContainer with
  | true =>
    obtain ⟨st', i1, o1, k1, r1, u1, n1, t1, f1, f2⟩ := stop_at_container v hc (sn := sn) hO rest hrem hfit hctx hp
    exact ⟨st', i1, o1, k1, n1, t1, fun _ => ⟨r1, u1, f1, f2⟩, fun h => by cases h⟩
  | false =>
    obtain ⟨st', i1, r1, _, o1, k1, n1, f1, s1⟩ := orig_scalar v hc (sn := sn) hO rest hrem hwf hctx
    have hsa : scanAfter (st.p.getLvl st.p.lvlIdx) st.scan = none := by
      rcases hp with ⟨hf, hs⟩ | ⟨hf, hs⟩ <;> simp [scanAfter, hf, hs, Flags.inArray, clear]
    rw [hsa] at i1
    exact ⟨st', i1, o1, k1, n1, by rw [s1.ty]; exact annotate_ty_off _ _ _ _ _, (fun h => nomatch h), fun _ => ⟨r1, f1, s1⟩⟩

end Binson
