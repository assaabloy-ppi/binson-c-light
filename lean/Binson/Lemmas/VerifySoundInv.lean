/-
  Soundness of verify: the relation `Mirror` tying the level entries to a context
  (Lemmas/VerifySoundCtx.lean) and its elementary consequences, what verify has to establish
  (`Accept`), and what an accepted `init` / `reset` has checked. The loop invariant built on
  `Mirror` is `ZG` (Lemmas/StreamInv.lean); `Z` is `ZG` with the scan word fixed to VERIFY.
-/
import Binson.Lemmas.VerifySoundCtx
import Binson.Lemmas.VerifySoundLex
import Binson.Lemmas.VerifyValid
namespace Binson

def sliceB (buf : Array UInt8) (s : Span) : Bytes := (buf.extract s.off (s.off + s.len)).toList

theorem slice_eq_sliceB (p : Parser) (s : Span) : p.slice s = sliceB p.buf s := rfl

/-- a level entry mirrors a context group (`top`: the group is the innermost one) -/
structure LvOk (buf : Array UInt8) (L : Level) (g : Grp) (top : Bool) : Prop where
  ad : L.ad = g.arrs.length
  arrFlags : g.arrs ≠ [] → (L.flags = .arr1 ∨ L.flags = .arr2)
  objTop : g.arrs = [] → top = true →
    (g.pend = none ∧ L.flags = .expField) ∨ ((∃ n, g.pend = some n) ∧ L.flags = .expValue)
  objLow : g.arrs = [] → top = false → (∃ n, g.pend = some n) ∧ L.flags = .expField
  name : g.virt = false → L.name.map (sliceB buf) = lastName g

/-- the level entries mirror the context (innermost group first; group `k` from the bottom is level `k`) -/
def Mirror (buf : Array UInt8) (md t : Nat) (lv : Nat → Level) : List Grp → Bool → Prop
  | [], _ => True
  | g :: rest, top =>
    LvOk buf (lv rest.length) g top ∧ GrpOk (md - (rest.length + 1)) g ∧
    (g.virt = true ↔ (rest = [] ∧ t = 2)) ∧ Mirror buf md t lv rest false

theorem Mirror.congr {buf : Array UInt8} {md t : Nat} {lv lv' : Nat → Level} :
    ∀ {gs : List Grp} {top : Bool}, (∀ i, i < gs.length → lv' i = lv i) → Mirror buf md t lv gs top → Mirror buf md t lv' gs top
  | [], _, _, _ => trivial
  | g :: rest, top, h, hm => by
    obtain ⟨h1, h2, h3, h4⟩ := hm
    refine ⟨?_, h2, h3, Mirror.congr (fun i hi => h i (by simp; omega)) h4⟩
    rw [h rest.length (by simp)]; exact h1

theorem Mirror.replaceTop {buf : Array UInt8} {md t : Nat} {lv lv' : Nat → Level} {g g' : Grp} {rest : List Grp} {top top' : Bool}
    (hm : Mirror buf md t lv (g :: rest) top) (hlv : ∀ i, i < rest.length → lv' i = lv i)
    (h1 : LvOk buf (lv' rest.length) g' top') (h2 : GrpOk (md - (rest.length + 1)) g') (hv : g'.virt = g.virt) :
    Mirror buf md t lv' (g' :: rest) top' :=
  ⟨h1, h2, by rw [hv]; exact hm.2.2.1, Mirror.congr hlv hm.2.2.2⟩

/-- what `verify` has to establish -/
def Accept (buf : Array UInt8) (md t : Nat) : Prop :=
  ∃ v, wfValue v = true ∧ encode v = buf.toList ∧
    ((t = 1 ∧ (∃ fs, v = .obj fs) ∧ fits md 255 v = true) ∨ (t = 2 ∧ (∃ xs, v = .arr xs) ∧ fits (md - 1) 255 v = true))

theorem Accept.wfDoc {buf : Array UInt8} {md : Nat} {root : Root} (h : Accept buf md (rootNum root)) :
    ∃ v, wfDoc root md v = true ∧ encode v = buf.toList := by
  obtain ⟨v, hw, henc, hk⟩ := h
  refine ⟨v, ?_, henc⟩
  unfold Binson.wfDoc
  cases root with
  | object =>
    rcases hk with ⟨_, ⟨fs, rfl⟩, hf⟩ | ⟨h, _⟩
    · simp [hw, rootKindOk, hf]
    · cases h
  | array =>
    rcases hk with ⟨h, _⟩ | ⟨_, ⟨xs, rfl⟩, hf⟩
    · cases h
    · simp [hw, rootKindOk, hf]

/-- `ZG` (Lemmas/StreamInv.lean) with the scan word fixed to VERIFY -/
structure Z (buf : Array UInt8) (md t : Nat) (st : LoopSt) (gs : List Grp) : Prop where
  shape : Shape st.p
  err : st.p.err = .none
  scan : st.scan = some .verify
  hbuf : st.p.buf = buf
  hmd : st.p.maxDepth = md
  md255 : md ≤ 255
  hpt : st.p.ptype = t
  t12 : t = 1 ∨ t = 2
  depth : st.p.depth = gs.length
  ne : gs ≠ []
  zeros : ∀ i, st.p.depth ≤ i → st.p.getLvl i = Level.zero
  mirror : Mirror buf md t st.p.getLvl gs true
  bytes : buf.toList = encGs gs ++ st.p.rem

theorem virt_false_of {D : Nat} {g : Grp} (hg : GrpOk D g) (ha : g.arrs = []) : g.virt = false := by
  cases hvv : g.virt with
  | false => rfl
  | true => exact absurd ha (hg.virtArr hvv)

theorem LvOk.cases {buf : Array UInt8} {L : Level} {g : Grp} {D : Nat} (h : LvOk buf L g true) (hg : GrpOk D g) :
    (g.arrs ≠ [] ∧ (L.flags = .arr1 ∨ L.flags = .arr2) ∧ 1 ≤ L.ad) ∨
    (g.arrs = [] ∧ (∃ n, g.pend = some n) ∧ L.flags = .expValue ∧ L.ad = 0 ∧ g.virt = false) ∨
    (g.arrs = [] ∧ g.pend = none ∧ L.flags = .expField ∧ L.ad = 0 ∧ g.virt = false) := by
  by_cases ha : g.arrs = []
  · have hv := virt_false_of hg ha
    have had : L.ad = 0 := by rw [h.ad, ha]; rfl
    rcases h.objTop ha rfl with ⟨h1, h2⟩ | ⟨h1, h2⟩
    · exact Or.inr (Or.inr ⟨ha, h1, h2, had, hv⟩)
    · exact Or.inr (Or.inl ⟨ha, h1, h2, had, hv⟩)
  · refine Or.inl ⟨ha, h.arrFlags ha, ?_⟩
    rw [h.ad]
    cases hx : g.arrs with
    | nil => exact absurd hx ha
    | cons a as => simp

/-! ### levels after a value has been added to a group -/

theorem addVal_virt (g : Grp) (v : Value) : (addVal g v).virt = g.virt := by
  unfold addVal
  cases g.arrs with
  | cons a as => rfl
  | nil => cases g.pend <;> rfl

theorem LvOk_addVal (buf : Array UInt8) (L' : Level) (g0 : Grp) (v : Value)
    (had : L'.ad = g0.arrs.length) (hfa : g0.arrs ≠ [] → (L'.flags = .arr1 ∨ L'.flags = .arr2))
    (hfo : g0.arrs = [] → L'.flags = .expField) (hp : g0.arrs = [] → ∃ n, g0.pend = some n)
    (hn : g0.virt = false → L'.name.map (sliceB buf) = lastName g0) : LvOk buf L' (addVal g0 v) true := by
  have hname : (addVal g0 v).virt = false → L'.name.map (sliceB buf) = lastName (addVal g0 v) := by
    rw [addVal_virt, lastName_addVal]; exact hn
  cases ha : g0.arrs with
  | cons a as =>
    have e : addVal g0 v = { g0 with arrs := (v :: a) :: as } := by unfold addVal; rw [ha]
    rw [e] at hname ⊢
    refine ⟨by rw [had, ha]; rfl, fun _ => hfa (by rw [ha]; simp), fun h => (by simp at h), fun h => (by simp at h), hname⟩
  | nil =>
    obtain ⟨n, hpn⟩ := hp ha
    have e : addVal g0 v = { g0 with fs := (n, v) :: g0.fs, pend := none } := by unfold addVal; rw [ha]; simp only [hpn]
    rw [e] at hname ⊢
    refine ⟨by rw [had, ha], fun h => absurd ha h, fun _ _ => Or.inl ⟨rfl, hfo ha⟩, fun _ h => (by cases h), hname⟩

theorem fits_scalar (d a : Nat) (v : Value) (h : v.isContainer = false) : fits d a v = true := by
  cases v <;> first | rfl | cases h

theorem lastName_arrs (g : Grp) (as : List (List Value)) : lastName { g with arrs := as } = lastName g := rfl

/-- the classification stage of a BEGIN token sets `current_type` only -/
theorem flags_setCtype {p : Parser} (hli : p.lvlIdx < p.levels.size) (ty : Ty) :
    ((p.setLvl p.lvlIdx { p.getLvl p.lvlIdx with ctype := ty }).getLvl
      (p.setLvl p.lvlIdx { p.getLvl p.lvlIdx with ctype := ty }).lvlIdx).flags = (p.getLvl p.lvlIdx).flags := by
  have e : (p.setLvl p.lvlIdx { p.getLvl p.lvlIdx with ctype := ty }).lvlIdx = p.lvlIdx := by rw [Parser.setLvl_eq]; rfl
  rw [e, getLvl_setLvl _ hli, if_pos rfl]

/-! ### what an accepted `init` / `reset` has checked, and the parser it leaves -/

theorem fresh_rem {W : Parser} {buf : Array UInt8} {t md : Nat} (hF : Fresh W buf t md) (h2 : 2 ≤ buf.size) :
    W.rem = buf.getD 0 0 :: buf.toList.drop 1 := by
  have hsz : W.size = buf.size := by rw [← hF.shape.hbs, hF.buf]
  have := rem_eq_cons hF.shape (by rw [hF.used, hsz]; omega)
  rw [hF.used] at this
  rw [this]
  unfold Parser.byte
  rw [hF.buf]

theorem reset_accept_inv (p : Parser) (hmd : p.maxDepth ≠ 0) (hbs : p.buf.size = p.size) (h : (reset p).2 = true) :
    2 ≤ p.size ∧ ((p.ptype = 1 ∧ p.byte 0 = 0x40 ∧ p.byte (p.size - 1) = 0x41) ∨
                  (p.ptype = 2 ∧ p.byte 0 = 0x42 ∧ p.byte (p.size - 1) = 0x43)) := by
  rw [reset_eq p hmd hbs] at h
  cases hro : resetOut p.size p.ptype p.buf with
  | ok d =>
    obtain ⟨h2, hc⟩ := resetOut_ok hro
    exact ⟨h2, hc.imp (fun c => ⟨c.1, c.2.2⟩) (fun c => ⟨c.1, c.2.2⟩)⟩
  | _ => rw [hro] at h; cases h

theorem init_accept (g : Parser) (buf : Array UInt8) (t : Nat) (h : (init g buf t).2 = true) :
    2 ≤ buf.size ∧ ((t = 1 ∧ buf.getD 0 0 = 0x40 ∧ buf.getD (buf.size - 1) 0 = 0x41) ∨
                    (t = 2 ∧ buf.getD 0 0 = 0x42 ∧ buf.getD (buf.size - 1) 0 = 0x43)) := by
  unfold init at h
  by_cases hmd : g.maxDepth = 0
  · rw [if_pos hmd] at h; cases h
  rw [if_neg hmd] at h
  exact reset_accept_inv { g with buf := buf, size := buf.size, err := .none, ptype := t } hmd rfl h

/-- `verify_wellformed` for a buffer given as such -/
theorem verify_complete (g : Parser) (ha : Alloc g) (hmd : g.maxDepth ≤ 255) (buf : Array UInt8) (hsz : buf.size < 2 ^ 63) (root : Root)
    (h : ∃ v, wfDoc root g.maxDepth v = true ∧ encode v = buf.toList) :
    (init g buf (rootNum root)).2 = true ∧ (verify (init g buf (rootNum root)).1).2.1 = true := by
  obtain ⟨v, hwf, henc⟩ := h
  have hb : buf = (encode v).toArray := by rw [henc]
  subst hb
  have := verify_wellformed g ha hmd root v hwf (by simpa using hsz)
  exact ⟨this.1, this.2.2.1⟩

end Binson
