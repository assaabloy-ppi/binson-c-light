/-
  Layer 4: `_advance_parsing(VALUE)` - the engine of `next` and of the field lookup -
  against the invariant: at the end of the container, on an overshooting name, on the next child.
-/
import Binson.Lemmas.NavOpBase
namespace Binson

namespace Run

variable {p : Parser} {c : Cursor} {Ls : List RLevel} {pend : Option Value}

theorem tail_obj (pv : Option Bytes) (fs : Fields) (Ls : List RLevel) :
    tailBytes (flat (⟨pv, some fs, []⟩ :: Ls)) = encFields fs ++ 0x41 :: tailBytes (flat Ls) := by
  rw [flat_obj]; rfl

theorem tail_arr (pv : Option Bytes) (b : Option Fields) (xs : Elems) (ar : List Elems) (Ls : List RLevel) :
    tailBytes (flat (⟨pv, b, xs :: ar⟩ :: Ls)) = encElems xs ++ 0x43 :: tailBytes (flat (⟨pv, b, ar⟩ :: Ls)) := by
  rw [flat_arr]; rfl

/-- a run that ended where the prelude left it: nothing but the skipped container has changed -/
theorem unchanged (h : Run p c L Ls pend) {scan : Scan} {st1 st' : LoopSt} {oa od : Nat}
    (k1 : Kept ⟨p, some scan, 0, []⟩ st1) (r1 : st1.p.rem = tailBytes (flat (L :: Ls)))
    (n1 : (st1.p.getLvl Ls.length).name = (p.getLvl Ls.length).name) (f1 : (st1.p.getLvl Ls.length).flags = nflags L)
    (o' : AtOrig st' oa od) (k' : Kept st1 st') (r' : st'.p.rem = st1.p.rem) (l' : ∀ i, st'.p.getLvl i = st1.p.getLvl i) :
    Run st'.p (mkCur c.arrayRoot p.size (flat (L :: Ls)) none) L Ls none := by
  have hli := h.lvlIdx
  have k := k1.trans k'
  refine h.next_state o'.shape o'.err k.frame k.depth (fun i hi => k.lower i (by show i < p.lvlIdx; rw [hli]; exact hi)) o'.zeros
    L none none h.base ?_ ⟨r'.trans r1, by rw [l']; exact f1, Or.inl rfl⟩
  have had := k.ad
  simp only at had
  rw [hli] at had
  exact h.top.transfer had (by rw [l']; exact n1) k.frame.2.1 k.frame.2.2.1

theorem halts_unchanged (h : Run p c L Ls pend) {scan : Scan} {sn : Option (List UInt8)} {st1 st' : LoopSt}
    (q : Ready p L Ls scan sn st1) {s' : Option Scan} {ev' : List Event}
    (hi : iter st1 sn (p.getLvl p.cur).ad p.depth = (st', .ret false))
    (r : StepRes st1 st' .none 0 s' st1.p.depth (fun i => st1.p.getLvl i) ev') :
    (advance p scan sn).ret = false ∧ Run (advance p scan sn).p (mkCur c.arrayRoot p.size (flat (L :: Ls)) none) L Ls none := by
  obtain ⟨o', k'⟩ := q.orig.back r.shape r.err r.depth r.frame (fun i _ => r.lvl i) (fun i hi => (r.lvl i).trans (q.orig.zeros i hi))
    (by rw [r.lvl])
  obtain ⟨e1, e2⟩ := q.close (Halts.ret hi)
  rw [e1, e2]
  exact ⟨rfl, h.unchanged q.kept q.rem q.name q.flags o' k' (rem_of_frame (bs := []) r.frame.2.1 r.used q.orig.shape (by simp) rfl) r.lvl⟩

/-- VALUE mode at the end of an object: `}` is not consumed -/
theorem value_obj_nil {pv : Option Bytes} (h : Run p c ⟨pv, some .nil, []⟩ Ls pend) (sn : Option (List UInt8)) :
    (advance p .value sn).ret = false ∧
    Run (advance p .value sn).p (mkCur c.arrayRoot p.size (flat (⟨pv, some .nil, []⟩ :: Ls)) none) ⟨pv, some .nil, []⟩ Ls none := by
  obtain ⟨st1, q⟩ := h.prelude .value cont_value sn
  obtain ⟨st', i1, r1⟩ := iter_objEnd_stay (sn := sn) (oa := (p.getLvl p.cur).ad) q.orig.shape q.orig.err _
    (by rw [q.rem, tail_obj]; rfl) (by rw [q.lvlIdx, q.flags]; rfl) q.mode q.orig.od
  exact h.halts_unchanged q i1 r1

/-- VALUE mode at the end of an array: `]` is not consumed -/
theorem value_arr_nil {pv : Option Bytes} {b : Option Fields} {ar : List Elems} (h : Run p c ⟨pv, b, .nil :: ar⟩ Ls pend)
    (sn : Option (List UInt8)) :
    (advance p .value sn).ret = false ∧
    Run (advance p .value sn).p (mkCur c.arrayRoot p.size (flat (⟨pv, b, .nil :: ar⟩ :: Ls)) none) ⟨pv, b, .nil :: ar⟩ Ls none := by
  obtain ⟨st1, q⟩ := h.prelude .value cont_value sn
  obtain ⟨st', i1, r1⟩ := iter_arrEnd_stay (sn := sn) q.orig.shape q.orig.err _ (by rw [q.rem, tail_arr]; rfl)
    (by rw [q.lvlIdx, q.flags]; exact Or.inl rfl) q.mode q.orig.oa q.orig.od
  exact h.halts_unchanged q i1 r1

/-- lookup: the next name is already beyond the one looked for; the cursor is put back in front of it -/
theorem value_obj_over {pv : Option Bytes} {n : Bytes} {v : Value} {r : Fields}
    (h : Run p c ⟨pv, some (.cons n v r), []⟩ Ls pend) (nm : List UInt8) (hov : cmpBytes n nm > 0) :
    (advance p .value (some nm)).ret = false ∧
    Run (advance p .value (some nm)).p (mkCur c.arrayRoot p.size (flat (⟨pv, some (.cons n v r), []⟩ :: Ls)) none)
      ⟨pv, some (.cons n v r), []⟩ Ls none := by
  obtain ⟨st1, q⟩ := h.prelude .value cont_value (some nm)
  obtain ⟨w1, w2, _⟩ := wf_cons (h.top.base _ rfl)
  have hr : st1.p.rem = encStr 0x14 n ++ (encode v ++ (encFields r ++ 0x41 :: tailBytes (flat Ls))) := by
    rw [q.rem, tail_obj]; simp [encFields]
  obtain ⟨c1, c2, hfitn, hord⟩ := name_token q.orig.shape q.orig.err n _ hr w2 (by rw [q.prevName]; exact w1)
  obtain ⟨st', i1, r1⟩ := iter_fieldName_unread (sn := some nm) q.orig.shape q.orig.err
    ⟨st1.p.used + 1 + intWidth (n.length : Int), n.length⟩ _ _ (by simp only [Nat.add_assoc]) c1 (by simp only; omega)
    (by rw [q.lvlIdx, q.flags]; rfl) hord q.orig.oa q.orig.od (by unfold overshoot; simp only [c2 st1.p rfl]; simpa using hov)
  exact h.halts_unchanged q i1 r1

theorem BaseOk_congr {ar : Bool} {L L' : RLevel} {Ls : List RLevel} (h : BaseOk ar L Ls)
    (h1 : L'.base = none ↔ L.base = none) (h2 : L'.base = none → L'.arrs ≠ []) : BaseOk ar L' Ls := by
  cases Ls with
  | nil => exact ⟨h1.trans h.1, h2⟩
  | cons L2 r => exact ⟨fun hn => h.1 (h1.mp hn), h.2⟩

/-- `next`/lookup has read the child `v`, which the cursor sees as `annotate nmo off v`: it is pending if it is a
    container (left unconsumed at `off`), current otherwise, and the getters answer what its node says -/
theorem read_done (h : Run p c L Ls pend) {sn : Option (List UInt8)} {st1 st' : LoopSt} (q : Ready p L Ls .value sn st1)
    (hh : Halts sn (p.getLvl p.cur).ad p.depth st1 st' true) (o' : AtOrig st' (p.getLvl p.cur).ad p.depth) (k' : Kept st1 st')
    {L' : RLevel} {v : Value} (nmo : Option (Bytes × Span)) (off : Nat)
    (hbase : BaseOk c.arrayRoot L' Ls) (htop : LvlOk st'.p Ls.length L') (hwf : wfValue v = true)
    (hfit : fits (p.maxDepth - (Ls.length + 1)) (255 - L'.arrs.length) v = true)
    (cty : (st'.p.getLvl Ls.length).ctype = (annotate none 0 v).item.ty)
    (hcont : v.isContainer = true → st'.p.rem = encode v ++ tailBytes (flat (L' :: Ls)) ∧ st'.p.used = off ∧
      (st'.p.getLvl Ls.length).flags = pflags L')
    (hscal : v.isContainer = false → st'.p.rem = tailBytes (flat (L' :: Ls)) ∧ (st'.p.getLvl Ls.length).flags = nflags L' ∧
      ScalarOk st1.p (st'.p.getLvl Ls.length) v off)
    (hname : ∀ b s, nmo = some (b, s) → (st'.p.getLvl Ls.length).name = some s ∧ st'.p.slice s = b ∧ s.off + s.len ≤ st'.p.size) :
    (advance p .value sn).ret = true ∧
    Run (advance p .value sn).p (mkCur c.arrayRoot p.size (flat (L' :: Ls)) (some (annotate nmo off v))) L' Ls
      (if v.isContainer then some v else none) ∧
    ItemMatches (advance p .value sn).p (annotate nmo off v).item := by
  obtain ⟨e1, e2⟩ := q.close hh
  rw [e1, e2]
  have k := q.kept.trans k'
  have hcur : st'.p.cur = Ls.length := by rw [o'.shape.hcur, k'.lvlIdx, q.lvlIdx]
  refine ⟨rfl, ?_, ?_⟩
  · refine h.next_state o'.shape o'.err k.frame k.depth (fun i hi => k.lower i (by show i < p.lvlIdx; rw [h.lvlIdx]; exact hi))
      o'.zeros L' _ _ hbase htop ?_
    cases hc : v.isContainer with
    | true =>
      obtain ⟨a1, a2, a3⟩ := hcont hc
      exact ⟨hc, a1, a3, ⟨nmo, by rw [a2]; rfl⟩, cty, hwf, by rw [k.frame.2.2.1]; exact hfit⟩
    | false =>
      obtain ⟨a1, a2, _⟩ := hscal hc
      exact ⟨a1, a2, Or.inr ⟨_, rfl, cty.trans (annotate_ty_off _ _ _ _ _), annotate_ty_scalar hc⟩⟩
  · refine itemMatches_of st'.p o'.err v nmo off (by rw [hcur, cty]; exact annotate_ty_off _ _ _ _ _) (by rw [hcur]; exact hname) ?_
    intro hc
    have sc := (hscal hc).2.2.congr k'.frame.2.1 k'.frame.1
    obtain ⟨v1, v2⟩ := annotate_val_nm nmo none off v
    rw [hcur, v1, v2]
    exact ⟨sc.val, sc.span⟩

theorem value_obj_read {pv : Option Bytes} {n : Bytes} {v : Value} {r : Fields}
    (h : Run p c ⟨pv, some (.cons n v r), []⟩ Ls pend) (sn : Option (List UInt8))
    (hno : ∀ nm, sn = some nm → ¬ cmpBytes n nm > 0) :
    (advance p .value sn).ret = true ∧
    Run (advance p .value sn).p
      (mkCur c.arrayRoot p.size (flat (⟨some n, some r, []⟩ :: Ls))
        (some (fieldNode (p.size - (tailBytes (flat (⟨pv, some (.cons n v r), []⟩ :: Ls))).length) n v)))
      ⟨some n, some r, []⟩ Ls (if v.isContainer then some v else none) ∧
    ItemMatches (advance p .value sn).p (fieldNode (p.size - (tailBytes (flat (⟨pv, some (.cons n v r), []⟩ :: Ls))).length) n v).item ∧
    curNameBytes (advance p .value sn).p = n := by
  obtain ⟨st1, q⟩ := h.prelude .value cont_value sn
  obtain ⟨w1, w2, w3, w4, w5, w6⟩ := wf_cons (h.top.base _ rfl)
  have hr : st1.p.rem = encStr 0x14 n ++ (encode v ++ tailBytes (flat (⟨some n, some r, []⟩ :: Ls))) := by
    rw [q.rem, tail_obj, tail_obj]; simp [encFields]
  obtain ⟨st2, i2, hr2, c2, o2, k2, l2, u2, slc, bnd⟩ := orig_name (sn := sn) q.orig n _ hr w2 (by rw [q.prevName]; exact w1)
    (by rw [q.lvlIdx, q.flags]; rfl) hno
  rw [q.mode, show clear (some Scan.value) .value = none from rfl] at c2
  have hi2 : st2.p.lvlIdx = Ls.length := k2.lvlIdx.trans q.lvlIdx
  have hl2a : (st2.p.getLvl st2.p.lvlIdx).ad = 0 := by rw [l2, q.lvlIdx]; exact q.ad
  obtain ⟨st', i', o', k', nmE, cty, hcont, hscal⟩ := orig_read (sn := sn) o2 v _ hr2 w3
    (by rw [k2.depth, k2.frame.2.2.1, hl2a, q.maxDepth, q.depth]; exact w5) (Or.inl ⟨by rw [l2]; rfl, hl2a⟩)
    (Or.inl ⟨by rw [l2]; rfl, c2⟩)
  -- the offsets as the annotated tree counts them
  have hv : st1.p.used + (1 + intWidth (n.length : Int) + n.length) = st1.p.used + hdrLen n.length + n.length := by
    unfold hdrLen; omega
  rw [← hdr_off] at l2 slc
  rw [hv] at u2 bnd
  rw [hi2] at nmE cty hcont hscal l2 hl2a
  rw [l2] at nmE
  have k := k2.trans k'
  have hslc := slc st'.p k.frame.2.1
  have htop : LvlOk st'.p Ls.length ⟨some n, some r, []⟩ := by
    refine ⟨?_, by rw [nmE]; exact congrArg some hslc, ?_, trivial⟩
    · have := k'.ad; rw [hi2] at this; rw [this]; exact hl2a
    · intro fs hfs
      cases hfs
      exact ⟨w4, by rw [k.frame.2.2.1, q.maxDepth]; exact w6⟩
  obtain ⟨e, hrun, hitem⟩ := h.read_done q ((Steps.one i2).halts (Halts.stop i' o'.err)) o' k
    (some (n, ⟨st1.p.used + hdrLen n.length, n.length⟩)) (st1.p.used + hdrLen n.length + n.length)
    (BaseOk_congr h.base (by simp) (by simp)) htop w3 w5 cty
    (fun hc => ⟨(hcont hc).1.trans hr2, (hcont hc).2.1.trans u2, (hcont hc).2.2.1 (by rw [l2]; rfl)⟩)
    (fun hc => ⟨(hscal hc).1, by rw [(hscal hc).2.1, l2]; rfl, by
      have := (hscal hc).2.2.congr k2.frame.2.1.symm k2.frame.1.symm
      rw [u2] at this; exact this⟩)
    (fun b s hb => by cases hb; exact ⟨nmE, hslc, by rw [k.frame.1]; simp only; omega⟩)
  rw [q.used]
  refine ⟨e, hrun, hitem, ?_⟩
  unfold curNameBytes
  rw [(q.close ((Steps.one i2).halts (Halts.stop i' o'.err))).1, o'.shape.hcur, k.lvlIdx, q.lvlIdx, nmE]
  exact hslc

theorem value_arr_read {pv : Option Bytes} {b : Option Fields} {v : Value} {r : Elems} {ar : List Elems}
    (h : Run p c ⟨pv, b, .cons v r :: ar⟩ Ls pend) (sn : Option (List UInt8)) :
    (advance p .value sn).ret = true ∧
    Run (advance p .value sn).p
      (mkCur c.arrayRoot p.size (flat (⟨pv, b, r :: ar⟩ :: Ls))
        (some (annotate none (p.size - (tailBytes (flat (⟨pv, b, .cons v r :: ar⟩ :: Ls))).length) v)))
      ⟨pv, b, r :: ar⟩ Ls (if v.isContainer then some v else none) ∧
    ItemMatches (advance p .value sn).p (annotate none (p.size - (tailBytes (flat (⟨pv, b, .cons v r :: ar⟩ :: Ls))).length) v).item := by
  obtain ⟨st1, q⟩ := h.prelude .value cont_value sn
  obtain ⟨w1, w2, w3⟩ := h.top.arrs
  have w1' : wfValue v = true ∧ wfElems r = true := by simpa [wfElems] using w1
  have w2' : fits (p.maxDepth - (Ls.length + 1)) (255 - (ar.length + 1)) v = true ∧
      fitsE (p.maxDepth - (Ls.length + 1)) (255 - (ar.length + 1)) r = true := by simpa [fitsE] using w2
  have hr : st1.p.rem = encode v ++ tailBytes (flat (⟨pv, b, r :: ar⟩ :: Ls)) := by
    rw [q.rem, tail_arr, tail_arr]; simp [encElems]
  have had1 : (st1.p.getLvl st1.p.lvlIdx).ad = ar.length + 1 := by rw [q.lvlIdx]; exact q.ad
  have hfl1 : (st1.p.getLvl st1.p.lvlIdx).flags = .arr1 := by rw [q.lvlIdx, q.flags]; rfl
  obtain ⟨st', i', o', k', nmE, cty, hcont, hscal⟩ := orig_read (sn := sn) q.orig v _ hr w1'.1
    (by rw [q.maxDepth, q.depth, had1]; exact w2'.1) (Or.inr ⟨Or.inl hfl1, by rw [had1]; omega⟩) (Or.inr ⟨hfl1, q.mode⟩)
  rw [q.lvlIdx] at nmE cty hcont hscal hfl1
  have hmd : st'.p.maxDepth = p.maxDepth := k'.frame.2.2.1.trans q.maxDepth
  have had' : (st'.p.getLvl Ls.length).ad = ar.length + 1 := by
    have := k'.ad; rw [q.lvlIdx] at this; rw [this]; exact q.ad
  have htop : LvlOk st'.p Ls.length ⟨pv, b, r :: ar⟩ :=
    h.top.withArrs had' (nmE.trans q.name) (q.kept.trans k').frame.2.1 hmd ⟨w1'.2, w2'.2, w3⟩
  rw [q.used]
  exact h.read_done q (Halts.stop i' o'.err) o' k' none st1.p.used (BaseOk_congr h.base (by simp) (by simp)) htop w1'.1 w2'.1 cty
    (fun hc => ⟨(hcont hc).1.trans hr, (hcont hc).2.1, (hcont hc).2.2.2 hfl1⟩)
    (fun hc => ⟨(hscal hc).1, by rw [(hscal hc).2.1, afterFlags, hfl1]; rfl, (hscal hc).2.2⟩) (fun b s hb => by cases hb)

end Run

end Binson
