/-
  Layer 4: the navigation refinement. On the canonical encoding of every well-formed
  document, every protocol-following sequence of navigation calls makes the machine and the
  reference cursor agree on every observable (`nav_refines`).
-/
import Binson.Lemmas.NavRaw
namespace Binson

theorem start_allowed (root : Root) (v : Value) (op : COp) (ha : (Cursor.start root v).allowed op = true) :
    (op = .enterObj ∧ ∃ fs, v = .obj fs) ∨ (op = .enterArr ∧ ∃ xs, v = .arr xs) := by
  cases op with
  | enterObj => exact Or.inl ⟨rfl, annotate_ty_object (by simpa [Cursor.start, Cursor.allowed, Cursor.pending] using ha)⟩
  | enterArr => exact Or.inr ⟨rfl, annotate_ty_array (by simpa [Cursor.start, Cursor.allowed, Cursor.pending] using ha)⟩
  | _ => simp [Cursor.start, Cursor.allowed] at ha

/-- the first call: the iteration over the root's BEGIN byte has left `NL` in the bottom state entry, which now
    describes the children `g` of the root -/
theorem start_agree {p : Parser} {root : Root} {g : RFrame} {op : COp} (hop : op = .enterObj ∨ op = .enterArr) {scan : Scan}
    (hm : machNav p op = ((advance p scan none).p, (advance p scan none).ret, none))
    (hF : Fresh p (encode g.value).toArray (rootNum root) p.maxDepth) (hmd : p.maxDepth ≤ 255)
    {b : UInt8} (hrem : p.rem = b :: tailBytes [g]) {st' : LoopSt} {s' : Option Scan} {NL : Level} {ev : List Event}
    (i1 : iter ⟨p, some scan, 0, []⟩ none (p.getLvl p.cur).ad p.depth = (st', .stop))
    (r1 : StepRes ⟨p, some scan, 0, []⟩ st' .none 1 s' 1 (fun i => if i = 0 then NL else Level.zero) ev)
    {base : Option Fields} {arrs : List Elems} (hfl : flat [⟨none, base, arrs⟩] = [g])
    (hbase : BaseOk (decide (root = .array)) ⟨none, base, arrs⟩ [])
    (had : NL.ad = arrs.length) (hname : NL.name = none) (hflags : NL.flags = nflags ⟨none, base, arrs⟩)
    (hfs : ∀ fs, base = some fs → wfFields none fs = true ∧ fitsF (p.maxDepth - 1) fs = true)
    (harrs : NArrsOk (p.maxDepth - 1) arrs) :
    Obs p (Cursor.start root g.value) op ∧ Agree (machNav p op).1 ((Cursor.start root g.value).step op).1 := by
  have hsh := hF.shape
  obtain ⟨e1, e2⟩ := advance_of_halts hsh hF.err scan none (Halts.stop i1 r1.err)
  have hL : st'.p.getLvl ([] : List RLevel).length = NL := r1.lvl 0
  have hrun : Run st'.p (mkCur (decide (root = .array)) p.size (flat [⟨none, base, arrs⟩]) none) ⟨none, base, arrs⟩ [] none := by
    refine Run.of_frame hmd (by rw [hF.ptype]; cases root <;> simp [rootNum]) r1.shape r1.err r1.frame r1.depth
      (fun i hi => by rw [r1.depth] at hi; rw [r1.lvl, if_neg (by omega)]) hbase ⟨?_, ?_, ?_, ?_⟩ trivial ⟨?_, ?_, Or.inl rfl⟩
    · rw [hL]; exact had
    · rw [hL, hname]; rfl
    · rw [r1.frame.2.2.1]; exact hfs
    · rw [r1.frame.2.2.1]; exact harrs
    · rw [rem_step hsh hrem r1.frame r1.used, hfl]
    · rw [hL]; exact hflags
  rw [← e1, hfl] at hrun
  exact obs_agree hm rfl (step_start root g p.size op hop (by rw [← hsh.hbs, hF.buf]; rfl)) e2 rfl (fun it hi => by cases hi) hrun

theorem start_enterObj {p : Parser} (fs : Fields) (hF : Fresh p (encode (.obj fs)).toArray 1 p.maxDepth) (hmd : p.maxDepth ≤ 255)
    (hwf : wfDoc .object p.maxDepth (.obj fs) = true) :
    Obs p (Cursor.start .object (.obj fs)) .enterObj ∧
    Agree (machNav p .enterObj).1 ((Cursor.start .object (.obj fs)).step .enterObj).1 := by
  obtain ⟨hw1, _, hfit⟩ := wfDoc_parts hwf
  have hfit' : 1 ≤ p.maxDepth ∧ fitsF (p.maxDepth - 1) fs = true := by simpa [fits] using hfit
  have hrem : p.rem = 0x40 :: (encFields fs ++ [0x41]) := by
    unfold Parser.rem; rw [hF.used, hF.buf, List.drop_zero]; simp [encode]
  obtain ⟨st', i1, r1⟩ := iter_objBegin_root (st := ⟨p, some .enterObj, 0, []⟩) (sn := none) (oa := (p.getLvl p.cur).ad) (od := p.depth)
    hF.shape hF.err hF.depth hF.zeros _ hrem rfl
  exact start_agree (root := .object) (g := .obj fs) (base := some fs) (arrs := []) (Or.inl rfl) rfl hF hmd hrem i1 r1 rfl ⟨by simp, by simp⟩ rfl rfl rfl
    (fun fs' h => by cases h; exact ⟨by simpa [wfValue] using hw1, hfit'.2⟩) trivial

theorem start_enterArr {p : Parser} (xs : Elems) (hF : Fresh p (encode (.arr xs)).toArray 2 p.maxDepth) (hmd : p.maxDepth ≤ 255)
    (hwf : wfDoc .array p.maxDepth (.arr xs) = true) :
    Obs p (Cursor.start .array (.arr xs)) .enterArr ∧
    Agree (machNav p .enterArr).1 ((Cursor.start .array (.arr xs)).step .enterArr).1 := by
  obtain ⟨hw1, _, hfit⟩ := wfDoc_parts hwf
  have hfit' : fitsE (p.maxDepth - 1) 254 xs = true := by simpa [fits] using hfit
  have hrem : p.rem = 0x42 :: (encElems xs ++ [0x43]) := by
    unfold Parser.rem; rw [hF.used, hF.buf, List.drop_zero]; simp [encode]
  obtain ⟨st', i1, _, r1⟩ := iter_arrBegin_root (st := ⟨p, some .enterArr, 0, []⟩) (sn := none) (oa := (p.getLvl p.cur).ad) (od := p.depth)
    hF.shape hF.err hF.depth hF.zeros _ hrem rfl
  exact start_agree (root := .array) (g := .arr xs) (base := none) (arrs := [xs]) (Or.inr rfl) rfl hF hmd hrem i1 r1 rfl ⟨by simp, by simp⟩ rfl rfl rfl
    (fun fs' h => by cases h) ⟨by simpa [wfValue] using hw1, hfit', trivial⟩

theorem agree_step {p : Parser} {c : Cursor} (h : Agree p c) (op : COp) (ha : c.allowed op = true) :
    Obs p c op ∧ Agree (machNav p op).1 (c.step op).1 := by
  cases h with
  | start root v hc hF hmd hwf =>
    subst hc
    have hrk : rootKindOk root v = true := rootKindOk_of_wfDoc hwf
    rcases start_allowed root v op ha with ⟨rfl, fs, rfl⟩ | ⟨rfl, xs, rfl⟩
    · cases root with
      | object => exact start_enterObj fs hF hmd hwf
      | array => simp [rootKindOk] at hrk
    · cases root with
      | array => exact start_enterArr xs hF hmd hwf
      | object => simp [rootKindOk] at hrk
  | run L Ls pend h =>
    cases op with
    | next => exact h.step_next
    | enterObj => exact h.step_enterObj ha
    | enterArr => exact h.step_enterArr ha
    | leaveObj => exact ⟨(h.step_leaveObj ha).1, (h.step_leaveObj ha).2.1⟩
    | leaveArr => exact ⟨(h.step_leaveArr ha).1, (h.step_leaveArr ha).2.1⟩
    | raw => exact h.step_raw ha
    | field nm => exact h.step_field nm ha
  | done hf hd =>
    cases op <;> simp [Cursor.allowed, Cursor.pending, hf, hd] at ha

theorem navOk_of_agree : ∀ (ops : List COp) (p : Parser) (c : Cursor), Agree p c → NavOk p c ops
  | [], _, _, _ => trivial
  | op :: ops, p, c, h => by
    intro ha
    obtain ⟨⟨o1, o2, o3, o4, o5, o6, o7⟩, hn⟩ := agree_step h op ha
    exact ⟨o1, o2, o3, o4, o5, o6, o7, navOk_of_agree ops _ _ hn⟩

/-- **Navigation refinement.** On the canonical encoding of every well-formed document that fits the
    depth configuration, from any allocated parser object, every protocol-following sequence of
    `next` / `go_into_*` / `leave_*` / `get_raw` / field lookups makes the machine agree with the
    reference cursor on every observable of every call. -/
theorem nav_refines (g : Parser) (ha : Alloc g) (hmd : g.maxDepth ≤ 255) (root : Root) (v : Value)
    (hwf : wfDoc root g.maxDepth v = true) (hsz : (encode v).length < 2 ^ 63) (ops : List COp) :
    NavOk (init g (encode v).toArray (rootNum root)).1 (Cursor.start root v) ops := by
  obtain ⟨_, hF, _, _⟩ := verify_wellformed g ha hmd root v hwf hsz
  have hm : (init g (encode v).toArray (rootNum root)).1.maxDepth = g.maxDepth := hF.maxDepth
  apply navOk_of_agree
  exact Agree.start root v rfl (by rw [hm]; exact hF) (by rw [hm]; exact hmd) (by rw [hm]; exact hwf)

end Binson
