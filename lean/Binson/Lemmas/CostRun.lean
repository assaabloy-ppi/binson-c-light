/-
  C16, tight form: all public calls as `step`, and whole traversals.
  `stepC` is `step` additionally returning the number of tokens the call processed
  (callbacks it made); `runC` sums them over a call sequence.
-/
import Binson.Lemmas.CostCalls
import Binson.Lemmas.StreamDefs
namespace Binson

def stepC (p : Parser) : Op → Parser × Nat
  | .next => ((nextC p).1, (nextC p).2.2)
  | .nextEnsure t => ((nextEnsureC p t).1, (nextEnsureC p t).2.2)
  | .field nm => ((fieldC p nm).1, (fieldC p nm).2.2)
  | .fieldEnsure nm t => ((fieldEnsureC p nm t).1, (fieldEnsureC p nm t).2.2)
  | .goIntoObject => ((goIntoObjectC p).1, (goIntoObjectC p).2.2)
  | .goIntoArray => ((goIntoArrayC p).1, (goIntoArrayC p).2.2)
  | .leaveObject => ((leaveObjectC p).1, (leaveObjectC p).2.2)
  | .leaveArray => ((leaveArrayC p).1, (leaveArrayC p).2.2)
  | .getRaw => ((getRawC p).1, (getRawC p).2.2.2)
  | .verify => ((verify p).1, (verify p).2.2.length)
  | op => ((step p op).1, 0)

theorem stepC_fst (p : Parser) (op : Op) : (stepC p op).1 = (step p op).1 := by
  cases op with
  | next => exact congrArg Prod.fst (nextC_eq p)
  | nextEnsure t => exact congrArg Prod.fst (nextEnsureC_eq p t)
  | field nm => exact congrArg Prod.fst (fieldC_eq p nm)
  | fieldEnsure nm t => exact congrArg Prod.fst (fieldEnsureC_eq p nm t)
  | goIntoObject => exact congrArg Prod.fst (goIntoObjectC_eq p)
  | goIntoArray => exact congrArg Prod.fst (goIntoArrayC_eq p)
  | leaveObject => exact congrArg Prod.fst (leaveObjectC_eq p)
  | leaveArray => exact congrArg Prod.fst (leaveArrayC_eq p)
  | getRaw => exact congrArg Prod.fst (getRawC_eq p)
  | _ => rfl

/-- the two calls that are a LOOP of `_advance_parsing` calls -/
def Op.isField : Op → Bool
  | .field _ => true
  | .fieldEnsure _ _ => true
  | _ => false

/-- Per-call bound for every navigation call (everything except init / reset / verify, which
    restart the cursor), on a shaped parser:
    * the buffer is the same, the cursor does not go back;
    * `tokens + 2·cursor before ≤ 2·cursor after + 2`   (all calls);
    * `tokens + cursor before ≤ cursor after + 2`        (all calls but `field`/`field_ensure`). -/
structure StepCost (p : Parser) (op : Op) : Prop where
  shape : Shape (stepC p op).1
  size : (stepC p op).1.size = p.size
  mono : p.used ≤ (stepC p op).1.used
  cost2 : (stepC p op).2 + 2 * p.used ≤ 2 * (stepC p op).1.used + 2
  cost1 : op.isField = false → (stepC p op).2 + p.used ≤ (stepC p op).1.used + 2

theorem StepCost.ofCall {p : Parser} {op : Op} {c : Nat} (hc : c ≤ 2) (h : CallCost c p (stepC p op).1 (stepC p op).2) :
    StepCost p op :=
  ⟨h.shape, h.size, h.mono, by have := h.mono; have := h.cost; omega, fun _ => by have := h.cost; omega⟩

theorem step_cost (p : Parser) (op : Op) (h : Shape p) (hn : op.IsNav) : StepCost p op := by
  cases op with
  | init _ _ | reset | verify => exact hn.elim
  | next => exact .ofCall (c := 1) (by omega) (next_cost p h)
  | nextEnsure t => exact .ofCall (c := 1) (by omega) (nextEnsure_cost p t h)
  | goIntoObject => exact .ofCall (c := 1) (by omega) (goIntoObject_cost p h)
  | goIntoArray => exact .ofCall (c := 1) (by omega) (goIntoArray_cost p h)
  | leaveObject => exact .ofCall (c := 1) (by omega) (leaveObject_cost p h)
  | leaveArray => exact .ofCall (c := 1) (by omega) (leaveArray_cost p h)
  | getRaw => exact .ofCall (c := 2) (by omega) (getRaw_cost p h)
  | getName => exact .ofCall (c := 0) (by omega) (getName_cost p h)
  | field nm =>
    obtain ⟨a, z, b, c⟩ := field_cost p nm h
    exact ⟨a, z, b, c, fun hf => by cases hf⟩
  | fieldEnsure nm t =>
    obtain ⟨a, z, b, c⟩ := fieldEnsure_cost p nm t h
    exact ⟨a, z, b, c, fun hf => by cases hf⟩
  -- the read-only calls
  | getDepth | getType | getStringBbuf | getBytesBbuf | getInteger | getBoolean | getDouble | stringEquals _ =>
    exact .ofCall (c := 0) (by omega) (CallCost.zero h 0)

theorem step_used_mono (p : Parser) (op : Op) (h : Shape p) (hn : op.IsNav) : p.used ≤ (step p op).1.used := by
  rw [← stepC_fst]; exact (step_cost p op h hn).mono

def runC (p : Parser) : List Op → Parser × Nat
  | [] => (p, 0)
  | op :: ops => ((runC (stepC p op).1 ops).1, (stepC p op).2 + (runC (stepC p op).1 ops).2)

theorem runC_fst (p : Parser) (ops : List Op) : (runC p ops).1 = run p ops := by
  induction ops generalizing p with
  | nil => rfl
  | cons op r ih =>
    show (runC (stepC p op).1 r).1 = run (step p op).1 r
    rw [ih, stepC_fst]

theorem traversal_cost (ops : List Op) (p : Parser) (h : Shape p) (hn : ∀ op ∈ ops, op.IsNav) :
    Shape (run p ops) ∧ (run p ops).size = p.size ∧ p.used ≤ (run p ops).used ∧
    (runC p ops).2 + 2 * p.used ≤ 2 * (run p ops).used + 2 * ops.length := by
  induction ops generalizing p with
  | nil => exact ⟨h, rfl, Nat.le_refl _, by simp [runC, run]⟩
  | cons op r ih =>
    have sc := step_cost p op h (hn op List.mem_cons_self)
    obtain ⟨a, z, b, c⟩ := ih (stepC p op).1 sc.shape (fun o ho => hn o (List.mem_cons_of_mem _ ho))
    have e : run p (op :: r) = run (stepC p op).1 r := by
      show run (step p op).1 r = _
      rw [stepC_fst]
    rw [e]
    refine ⟨a, z.trans sc.size, Nat.le_trans sc.mono b, ?_⟩
    show (stepC p op).2 + (runC (stepC p op).1 r).2 + 2 * p.used ≤ _
    have := sc.cost2
    simp only [List.length_cons]
    omega

theorem traversal_cost_nofield (ops : List Op) (p : Parser) (h : Shape p) (hn : ∀ op ∈ ops, op.IsNav)
    (hf : ∀ op ∈ ops, op.isField = false) :
    (runC p ops).2 + p.used ≤ (run p ops).used + 2 * ops.length := by
  induction ops generalizing p with
  | nil => simp [runC, run]
  | cons op r ih =>
    have sc := step_cost p op h (hn op List.mem_cons_self)
    have c := ih (stepC p op).1 sc.shape (fun o ho => hn o (List.mem_cons_of_mem _ ho))
      (fun o ho => hf o (List.mem_cons_of_mem _ ho))
    have e : run p (op :: r) = run (stepC p op).1 r := by
      show run (step p op).1 r = _
      rw [stepC_fst]
    rw [e]
    show (stepC p op).2 + (runC (stepC p op).1 r).2 + p.used ≤ _
    have := sc.cost1 (hf op List.mem_cons_self)
    simp only [List.length_cons]
    omega

theorem traversal_linear (ops : List Op) (p : Parser) (h : Shape p) (h0 : p.used = 0) (hn : ∀ op ∈ ops, op.IsNav) :
    (runC p ops).2 ≤ 2 * (run p ops).used + 2 * ops.length ∧
    (runC p ops).2 ≤ 2 * p.size + 2 * ops.length ∧
    ((∀ op ∈ ops, op.isField = false) →
      (runC p ops).2 ≤ (run p ops).used + 2 * ops.length ∧ (runC p ops).2 ≤ p.size + 2 * ops.length) := by
  obtain ⟨a, z, b, c⟩ := traversal_cost ops p h hn
  have hus := a.hus
  rw [z] at hus
  refine ⟨by omega, by omega, fun hf => ?_⟩
  have := traversal_cost_nofield ops p h hn hf
  exact ⟨by omega, by omega⟩

/-- `binson_parser_verify` restarts the cursor at 0 and is one `_advance_parsing` call, hence at
    most `size + 1` tokens. -/
theorem verify_linear (p : Parser) (h : Shape p) : (verify p).2.2.length ≤ p.size + 1 := by
  unfold verify
  have hr := reset_shape p h
  have hsz : (reset p).1.size = p.size := (reset_frame p (by have := h.hmd; omega) h.hbs).1
  generalize reset p = r at hr hsz
  obtain ⟨q, ok⟩ := r
  simp only at hr hsz ⊢
  cases ok
  · simp
  · simp only [Bool.not_true, Bool.false_eq_true, if_false]
    have h1 := advance_cost_tight q .verify none hr
    have h2 := (adv_shape q .verify none hr).hus
    have h3 := frame_adv q .verify none hr
    split <;> (simp only; omega)

end Binson
