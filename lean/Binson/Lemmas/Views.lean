/-
  The callback log a value must produce, as the print callbacks see it (`EvView`), defined
  structurally on the tree. `ad` is the array depth of the level the value sits in.
  `verify_wellformed` (Lemmas/VerifyValid.lean, from the pass-through lemma) shows verify's log on `encode v` is `viewsOf 0 v`;
  the print theorems (C13/C14) are about these lists only.
-/
import Binson.Spec.Value
import Binson.Model.Print
namespace Binson

mutual
def viewsOf (ad : Nat) : Value → List EvView
  | .bool b => [⟨.boolean, 0, [], [], .bool b⟩]
  | .int i => [⟨.integer, 0, [], [], .int i⟩]
  | .dbl d => [⟨.double, 0, [], [], .dbl d.toNat⟩]
  | .str s => [⟨.string, 0, [], s, .none⟩]
  | .bytes s => [⟨.bytes, 0, [], s, .none⟩]
  | .arr xs => ⟨.arrBegin, 0, [], [], .none⟩ :: (viewsOfE (ad + 1) xs ++ [⟨.arrEnd, ad, [], [], .none⟩])
  | .obj fs => ⟨.objBegin, 0, [], [], .none⟩ :: (viewsOfF fs ++ [⟨.objEnd, ad, [], [], .none⟩])
def viewsOfE (ad : Nat) : Elems → List EvView
  | .nil => []
  | .cons v r => viewsOf ad v ++ viewsOfE ad r
def viewsOfF : Fields → List EvView
  | .nil => []
  | .cons n v r => ⟨.fieldName, 0, n, [], .none⟩ :: (viewsOf 0 v ++ viewsOfF r)
end

end Binson
