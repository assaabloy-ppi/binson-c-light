/-
  C08: one pass through the loop body from a state satisfying the invariant `ZG`, in
  EVERY scan mode - field names and scalar values; then all tokens together (`zg_iter`).
-/
import Binson.Lemmas.StreamStep
namespace Binson

theorem Tok.isValue_of_isScalar {tok : Tok} (h : tok.isScalar = true) : tok.isValue = true := by
  cases tok <;> first | rfl | cases h

section
variable {buf : Array UInt8} {md t : Nat}

theorem g_scalar {st : LoopSt} {g : Grp} {rest : List Grp} (hZ : ZG buf md t st.p (g :: rest))
    (sn : Option (List UInt8)) (oa od : Nat) (v : Value) (rs : Bytes) (tok : Tok) (span : Span)
    (hsv : v.isContainer = false) (hwf : wfValue v = true) (hrem : st.p.rem = encode v ++ rs)
    (hcl : classify st.p st.bc = ⟨tok, span, (encode v).length, { st.p with used := st.p.used + (encode v).length }⟩)
    (hsc : tok.isScalar = true) (hsp : span.off + span.len ≤ st.p.size) (hp : g.arrs = [] → ∃ n, g.pend = some n)
    (R : Parser) (hR : R = (iter st sn oa od).1.p) (hRs : Shape R) (hfr : st.p.Frame R) : Res buf md t R := by
  have hT := hZ.top
  have hsh := hZ.shape
  have hvp := valPos_of hT.lv hT.ok hp
  rw [← hT.idx] at hvp
  rcases tok_scalar sn oa od hsh hZ.err tok span _ hcl hsc hsp hvp R hR with h | ⟨_, r1, r2, r3, L', a1, a2, a3, r5⟩
  · exact Or.inl h
  · refine Or.inr (Or.inr (Or.inl ⟨addVal g v :: rest, ?_⟩))
    rw [hT.idx] at a1 a2 a3
    obtain ⟨b1, b2, b3, b4⟩ := hT.lv.afterValue hp a1 a2 a3
    exact hZ.setTop hRs r1 hfr r3 L' r5 (encode v) rs hrem r2 (LvOk_addVal buf _ g v b1 b2 b3 hp b4)
      (GrpOk_addVal _ g v hT.ok hp hwf (fits_scalar _ _ v hsv))
      (addVal_virt g v) (encGrp_addVal g v (fun ha => ⟨virt_false_of hT.ok ha, hp ha⟩))

theorem g_name {st : LoopSt} {g : Grp} {rest : List Grp} (hZ : ZG buf md t st.p (g :: rest))
    (sn : Option (List UInt8)) (oa od : Nat) (s rs : Bytes) (hs : s.length ≤ INT32_MAX)
    (hrem : st.p.rem = encStr 0x14 s ++ rs) (ha : g.arrs = []) (hpn : g.pend = none)
    (R : Parser) (hR : R = (iter st sn oa od).1.p) (hRs : Shape R) (hfr : st.p.Frame R) : Res buf md t R := by
  have hT := hZ.top
  have hsh := hZ.shape
  obtain ⟨c1, c2, _⟩ := classify_str hsh hZ.err st.bc rs s hs hrem
  rw [show st.p.used + 1 + intWidth (s.length : Int) + s.length = st.p.used + (1 + intWidth (s.length : Int) + s.length) by omega] at c1
  obtain ⟨hfl, _, _, hvf⟩ := expField_of hT.lv hT.ok (fun h => by obtain ⟨n, hn⟩ := h ha; rw [hpn] at hn; cases hn)
  have hfit := rem_fit hsh hrem
  rw [encStr_length] at hfit
  have hname := hT.lv.name hvf
  have hlast : lastName g = topName g.fs := by unfold lastName; rw [hpn]
  rw [hlast] at hname
  have hsl : sliceB buf ⟨st.p.used + 1 + intWidth s.length, s.length⟩ = s := by
    rw [← hZ.hbuf]; exact c2 st.p rfl
  have hslp : ∀ sp, st.p.slice sp = sliceB buf sp := fun sp => by rw [slice_eq_sliceB, hZ.hbuf]
  rcases tok_name sn oa od hsh hZ.err _ _ c1 (by simp only; omega) (by rw [hT.idx]; exact hfl) R hR with
    h | ⟨r1, r2, r3, r5⟩ | ⟨r0, r1, r2, r3, r5⟩
  · exact Or.inl h
  · exact Or.inr (Or.inr (Or.inl ⟨_, hZ.same' hRs r1 hfr r2 r3 r5⟩))
  · rw [hT.idx] at r0
    have hord : nameAfter (topName g.fs) s = true := by
      cases hnm : (st.p.getLvl rest.length).name with
      | none =>
        rw [hnm] at hname
        rw [← hname]; rfl
      | some pn =>
        rw [hnm] at hname
        simp only [Option.map_some] at hname
        rw [← hname]
        unfold nameOrdErr at r0
        rw [hnm] at r0
        simp only [hslp, hsl, decide_eq_false_iff_not, ge_iff_le, Int.not_le] at r0
        exact (cmpBytes_order _ _).1.mp r0
    refine Or.inr (Or.inr (Or.inl ⟨{ g with pend := some s } :: rest, ?_⟩))
    refine hZ.setTop hRs r1 hfr r3 _ r5 (encStr 0x14 s) rs hrem (by rw [r2, encStr_length]) ?_ (GrpOk_name _ g s hT.ok ha hord hs) rfl
      (encGrp_name g s hvf ha hpn)
    refine ⟨by rw [hT.idx]; exact hT.lv.ad, fun hne => absurd ha hne, fun _ _ => Or.inr ⟨⟨s, rfl⟩, rfl⟩, fun _ h => (by cases h), fun _ => ?_⟩
    show Option.map (sliceB buf) (some _) = some s
    rw [Option.map_some, hsl]

theorem zg_iter {st : LoopSt} {gs : List Grp} (hZ : ZG buf md t st.p gs) (sn : Option (List UInt8)) (oa od : Nat) :
    Res buf md t (iter st sn oa od).1.p := by
  obtain ⟨g, rest, rfl⟩ := List.exists_cons_of_ne_nil hZ.ne
  have hT := hZ.top
  have hsh := hZ.shape
  have he := hZ.err
  have hspec := iter_spec st sn oa od hsh he
  have hRs := hspec.shape
  have hfr := hspec.frame
  cases lex_cases hsh st.bc with
  | err h => exact Or.inl (iter_err_classify hsh he h)
  | objBegin rs h => exact g_objBegin hZ sn oa od rs h _ rfl hRs hfr
  | objEnd rs h => exact g_objEnd hZ sn oa od rs h _ rfl hRs hfr
  | arrBegin rs h => exact g_arrBegin hZ sn oa od rs h _ rfl hRs hfr
  | arrEnd rs h => exact g_arrEnd hZ sn oa od rs h _ rfl hRs hfr
  | badInt w hfit hcl hbad =>
    by_cases hp : g.arrs = [] → ∃ n, g.pend = some n
    · have hvp := valPos_of hT.lv hT.ok hp
      rw [← hT.idx] at hvp
      rw [show st.p.used + 1 + w = st.p.used + (1 + w) by omega] at hcl
      rcases tok_scalar sn oa od hsh he .integer ⟨st.p.used + 1, w⟩ (1 + w) hcl rfl (by simp only; omega) hvp _ rfl with h | ⟨r0, _⟩
      · exact Or.inl h
      · have := r0 rfl
        simp only at this
        rw [hbad] at this; cases this
    · exact Or.inl (g_field_value hZ sn oa od hp _ _ _ _ hcl rfl rfl (fun h => nomatch h))
  | scalar v rs tok span hsv hwf hrem hcl hsc hsp hstr =>
    by_cases hp : g.arrs = [] → ∃ n, g.pend = some n
    · exact g_scalar hZ sn oa od v rs tok span hsv hwf hrem hcl hsc hsp hp _ rfl hRs hfr
    · by_cases hts : tok = .string
      · obtain ⟨s, rfl⟩ := hstr hts
        have hs : s.length ≤ INT32_MAX := by simpa [wfValue] using hwf
        have hrem' : st.p.rem = encStr 0x14 s ++ rs := by simpa [encode] using hrem
        obtain ⟨_, ha, hpn, _⟩ := expField_of hT.lv hT.ok hp
        exact g_name hZ sn oa od s rs hs hrem' ha hpn _ rfl hRs hfr
      · exact Or.inl (g_field_value hZ sn oa od hp _ _ _ _ hcl rfl (Tok.isValue_of_isScalar hsc) hts)

end
end Binson
