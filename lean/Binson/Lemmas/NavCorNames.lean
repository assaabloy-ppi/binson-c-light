/-
  Layer 4, corollaries: pure facts about strictly ascending name lists and about what a
  lookup does to the reference cursor (`Cursor.step (.field nm)`), in terms of `namesAhead`.
-/
import Binson.Lemmas.NavCorBase
namespace Binson

theorem navc_asc_cons : ∀ (r : List Bytes) (a : Bytes), ascNames (a :: r) = true →
    (∀ x ∈ r, bytesLt a x = true) ∧ ascNames r = true
  | [], _, _ => ⟨fun _ h => (by cases h), rfl⟩
  | b :: r, a, h => by
    have h' : bytesLt a b = true ∧ ascNames (b :: r) = true := by simpa [ascNames] using h
    obtain ⟨h1, h2⟩ := navc_asc_cons r b h'.2
    refine ⟨?_, h'.2⟩
    intro x hx
    rcases List.mem_cons.mp hx with rfl | hx
    · exact h'.1
    · exact bytesLt_trans a b x h'.1 (h1 x hx)

theorem navc_asc_of_cons (a : Bytes) : ∀ (r : List Bytes), (∀ x ∈ r, bytesLt a x = true) → ascNames r = true →
    ascNames (a :: r) = true
  | [], _, _ => rfl
  | b :: r, h1, h2 => by
    simp only [ascNames, Bool.and_eq_true]
    exact ⟨h1 b List.mem_cons_self, h2⟩

theorem navc_asc_cut (nm : Bytes) : ∀ (l : List Bytes), ascNames l = true →
    (nm ∈ l ∧ l.dropWhile (fun x => bytesLt x nm) = nm :: l.filter (fun x => bytesLt nm x)) ∨
    (nm ∉ l ∧ l.dropWhile (fun x => bytesLt x nm) = l.filter (fun x => bytesLt nm x))
  | [], _ => Or.inr ⟨List.not_mem_nil, rfl⟩
  | a :: r, h => by
    obtain ⟨h1, h2⟩ := navc_asc_cons r a h
    rw [List.dropWhile_cons, List.filter_cons]
    cases ha : bytesLt a nm with
    | true =>
      -- `a` is skipped; it is neither `nm` nor greater
      rw [bytesLt_asymm ha]
      simp only [if_true, Bool.false_eq_true, if_false, List.mem_cons]
      have hne : nm ≠ a := fun e => bytesLt_ne ha e.symm
      rcases navc_asc_cut nm r h2 with ⟨m, e⟩ | ⟨m, e⟩
      · exact Or.inl ⟨Or.inr m, e⟩
      · exact Or.inr ⟨fun hm => hm.elim hne m, e⟩
    | false =>
      -- the cut is at `a`, and all of `r` is greater than `a`
      simp only [Bool.false_eq_true, if_false]
      by_cases hn : a = nm
      · subst hn
        rw [bytesLt_irrefl, if_neg Bool.false_ne_true, List.filter_eq_self.mpr h1]
        exact Or.inl ⟨List.mem_cons_self, rfl⟩
      · have hgt : bytesLt nm a = true := by
          cases h' : bytesLt nm a with
          | true => rfl
          | false => exact absurd (bytesLt_total a nm ha h') hn
        rw [hgt, if_pos rfl, List.filter_eq_self.mpr (fun x hx => bytesLt_trans nm a x hgt (h1 x hx))]
        refine Or.inr ⟨fun hm => ?_, rfl⟩
        rcases List.mem_cons.mp hm with e | e
        · exact hn e.symm
        · have := bytesLt_asymm (h1 nm e)
          rw [hgt] at this; cases this

theorem navc_filter_absent (nm : Bytes) (l : List Bytes) (hn : nm ∉ l) :
    l.filter (fun x => !bytesLt x nm) = l.filter (fun x => bytesLt nm x) := by
  apply List.filter_congr
  intro x hx
  cases h1 : bytesLt x nm with
  | true => rw [bytesLt_asymm h1]; rfl
  | false =>
    cases h2 : bytesLt nm x with
    | true => rfl
    | false => exact absurd (bytesLt_total x nm h1 h2 ▸ hx) hn

theorem navc_mem_filter_gt {nm x : Bytes} (l : List Bytes) (h : bytesLt nm x = true) :
    x ∈ l.filter (fun y => bytesLt nm y) ↔ x ∈ l := by
  rw [List.mem_filter]
  exact ⟨fun h' => h'.1, fun h' => ⟨h', h⟩⟩

theorem navc_names_annotateF : ∀ (fs : Fields) (off : Nat), (annotateF off fs).map nameOf = fs.names
  | .nil, _ => by simp [annotateF, Fields.names]
  | .cons n v r, off => by
    rw [annotateF_cons, List.map_cons, nameOf_annotate, Fields.names, navc_names_annotateF r]

theorem navc_asc_of_ascF : ∀ (fs : Fields) (pv : Option Bytes), ascF pv fs = true → ascNames fs.names = true
  | .nil, _, _ => rfl
  | .cons n v r, pv, h => by
    have hh : nameAfter pv n = true ∧ ascF (some n) r = true := by simpa [ascF] using h
    exact navc_asc_of_cons n r.names (ascF_lt n r hh.2) (navc_asc_of_ascF r (some n) hh.2)

theorem Cursor.namesAhead_of_frames {c : Cursor} {f : Frame} {fs : List Frame} (h : c.frames = f :: fs) :
    c.namesAhead = f.rest.map nameOf := by
  unfold Cursor.namesAhead; rw [h]

theorem Cursor.inObject_of_frames {c : Cursor} {f : Frame} {fs : List Frame} (h : c.frames = f :: fs) :
    c.inObject = f.isObj := by
  unfold Cursor.inObject; rw [h]

theorem Cursor.frames_of_inObject {c : Cursor} (h : c.inObject = true) : ∃ f fs, c.frames = f :: fs ∧ f.isObj = true := by
  unfold Cursor.inObject at h
  cases hf : c.frames with
  | nil => rw [hf] at h; cases h
  | cons f fs => rw [hf] at h; exact ⟨f, fs, rfl, h⟩

theorem Cursor.allowed_field_of_inObject {c : Cursor} (h : c.inObject = true) (nm : Bytes) : c.allowed (.field nm) = true := h

/-- a lookup either hits (the field found is the first one not smaller; it becomes current) or misses
    (only the smaller fields are passed, nothing is current) -/
theorem Cursor.step_field_cases {c : Cursor} {f : Frame} {fs : List Frame} (hf : c.frames = f :: fs) (nm : Bytes) :
    (∃ n r, f.rest.dropWhile (fun x => bytesLt (nameOf x) nm) = n :: r ∧ nameOf n = nm ∧
      (c.step (.field nm)).1.frames = ⟨f.isObj, r⟩ :: fs ∧ (c.step (.field nm)).1.cur = some n ∧
      (c.step (.field nm)).2 = ⟨true, some n.item, none⟩) ∨
    ((∀ n r, f.rest.dropWhile (fun x => bytesLt (nameOf x) nm) = n :: r → nameOf n ≠ nm) ∧
      (c.step (.field nm)).1.frames = ⟨f.isObj, f.rest.dropWhile (fun x => bytesLt (nameOf x) nm)⟩ :: fs ∧
      (c.step (.field nm)).1.cur = none ∧ (c.step (.field nm)).2 = ⟨false, none, none⟩) := by
  simp only [Cursor.step, hf]
  cases hr : f.rest.dropWhile (fun x => bytesLt (nameOf x) nm) with
  | nil => exact Or.inr ⟨fun n r h => (by cases h), rfl, rfl, rfl⟩
  | cons n r =>
    by_cases hn : nameOf n = nm
    · exact Or.inl ⟨n, r, rfl, hn, by simp [hn]⟩
    · exact Or.inr ⟨fun n' r' h => (by injection h with h1 _; rw [← h1]; exact hn), by simp [hn]⟩

theorem navc_dropWhile_names (nm : Bytes) (l : List Node) :
    (l.dropWhile (fun x => bytesLt (nameOf x) nm)).map nameOf = (l.map nameOf).dropWhile (fun x => bytesLt x nm) := by
  rw [List.dropWhile_map]; rfl

theorem Cursor.step_field_names {c : Cursor} (hfr : c.frames ≠ []) (hasc : ascNames c.namesAhead = true) (nm : Bytes) :
    ((c.step (.field nm)).2.ok = true ↔ nm ∈ c.namesAhead) ∧
    (c.step (.field nm)).1.namesAhead = c.namesAhead.filter (fun x => bytesLt nm x) ∧
    ((c.step (.field nm)).2.ok = false →
      (c.step (.field nm)).1.namesAhead = c.namesAhead.filter (fun x => !bytesLt x nm) ∧
      (c.step (.field nm)).1.namesAhead = c.namesAhead.dropWhile (fun x => bytesLt x nm) ∧ (c.step (.field nm)).1.cur = none) ∧
    (c.step (.field nm)).1.inObject = c.inObject := by
  obtain ⟨f, fs, hf⟩ := List.exists_cons_of_ne_nil hfr
  rw [Cursor.namesAhead_of_frames hf] at hasc ⊢
  have hcut := navc_asc_cut nm _ hasc
  rw [← navc_dropWhile_names] at hcut
  rcases Cursor.step_field_cases hf nm with ⟨n, r, hd, hn, s1, _, s3⟩ | ⟨hd, s1, s2, s3⟩
  · rw [hd, List.map_cons, hn] at hcut
    rcases hcut with ⟨hin, e⟩ | ⟨_, e⟩
    · refine ⟨by rw [s3]; simp [hin], ?_, fun h => (by rw [s3] at h; cases h), ?_⟩
      · rw [Cursor.namesAhead_of_frames s1]
        exact (List.cons.inj e).2
      · rw [Cursor.inObject_of_frames s1, Cursor.inObject_of_frames hf]
    · -- `nm` would be one of the names greater than `nm`
      have hm : nm ∈ (f.rest.map nameOf).filter (fun x => bytesLt nm x) := by rw [← e]; exact List.mem_cons_self
      have := (List.mem_filter.mp hm).2
      rw [bytesLt_irrefl] at this; cases this
  · have e0 : (c.step (.field nm)).1.namesAhead = (f.rest.map nameOf).dropWhile (fun x => bytesLt x nm) := by
      rw [Cursor.namesAhead_of_frames s1, navc_dropWhile_names]
    rcases hcut with ⟨_, e⟩ | ⟨hno, e⟩
    · cases hr : f.rest.dropWhile (fun x => bytesLt (nameOf x) nm) with
      | nil => rw [hr] at e; cases e
      | cons n r => rw [hr] at e; exact absurd (List.cons.inj e).1 (hd n r hr)
    · have e1 : (c.step (.field nm)).1.namesAhead = (f.rest.map nameOf).filter (fun x => bytesLt nm x) := by
        rw [e0, ← navc_dropWhile_names]; exact e
      refine ⟨by rw [s3]; simp [hno], e1, fun _ => ⟨by rw [e1, navc_filter_absent nm _ hno], e0, s2⟩, ?_⟩
      rw [Cursor.inObject_of_frames s1, Cursor.inObject_of_frames hf]

/-- the field a lookup of `nm` refers to: the first (and, names being distinct, only) field ahead
    of the cursor whose name has exactly these bytes -/
def Cursor.fieldAhead (c : Cursor) (nm : Bytes) : Option Node :=
  match c.frames with
  | f :: _ => f.rest.find? (fun n => decide (nameOf n = nm))
  | [] => none

theorem Cursor.fieldAhead_of_frames {c : Cursor} {f : Frame} {fs : List Frame} (h : c.frames = f :: fs) (nm : Bytes) :
    c.fieldAhead nm = f.rest.find? (fun n => decide (nameOf n = nm)) := by
  unfold Cursor.fieldAhead; rw [h]

theorem Cursor.fieldAhead_some {c : Cursor} {nm : Bytes} {n : Node} (h : c.fieldAhead nm = some n) :
    ∃ f fs, c.frames = f :: fs ∧ n ∈ f.rest ∧ nameOf n = nm := by
  unfold Cursor.fieldAhead at h
  cases hf : c.frames with
  | nil => rw [hf] at h; cases h
  | cons f fs =>
    rw [hf] at h
    simp only at h
    have h1 := List.mem_of_find?_eq_some h
    have h2 := List.find?_some h
    exact ⟨f, fs, rfl, h1, by simpa using h2⟩

theorem Cursor.fieldAhead_isSome (c : Cursor) (nm : Bytes) : (c.fieldAhead nm).isSome = true ↔ nm ∈ c.namesAhead := by
  unfold Cursor.fieldAhead Cursor.namesAhead
  cases c.frames with
  | nil => simp
  | cons f fs => simp [List.find?_isSome]

theorem navc_find_of_dropWhile (nm : Bytes) : ∀ (l : List Node) (n : Node) (r : List Node),
    l.dropWhile (fun x => bytesLt (nameOf x) nm) = n :: r → nameOf n = nm →
    l.find? (fun x => decide (nameOf x = nm)) = some n
  | [], _, _, e, _ => by simp at e
  | a :: l, n, r, e, hn => by
    rw [List.dropWhile_cons] at e
    cases ha : bytesLt (nameOf a) nm with
    | true =>
      rw [ha] at e
      simp only [if_true] at e
      rw [List.find?_cons, show decide (nameOf a = nm) = false from decide_eq_false (bytesLt_ne ha)]
      exact navc_find_of_dropWhile nm l n r e hn
    | false =>
      rw [ha] at e
      simp only [Bool.false_eq_true, if_false] at e
      injection e with e1 _
      subst e1
      rw [List.find?_cons, show decide (nameOf a = nm) = true from decide_eq_true hn]

theorem Cursor.step_field_cur {c : Cursor} (hfr : c.frames ≠ []) (hasc : ascNames c.namesAhead = true) (nm : Bytes) :
    (c.step (.field nm)).1.cur = c.fieldAhead nm ∧ (c.step (.field nm)).2.item = (c.fieldAhead nm).map Node.item ∧
    (c.step (.field nm)).2.ok = (c.fieldAhead nm).isSome := by
  obtain ⟨f, fs, hf⟩ := List.exists_cons_of_ne_nil hfr
  rcases Cursor.step_field_cases hf nm with ⟨n, r, hd, hn, _, s2, s3⟩ | ⟨_, _, s2, s3⟩
  · rw [Cursor.fieldAhead_of_frames hf, navc_find_of_dropWhile nm _ n r hd hn, s2, s3]; exact ⟨rfl, rfl, rfl⟩
  · have hx : c.fieldAhead nm = none := by
      cases hx : c.fieldAhead nm with
      | none => rfl
      | some n =>
        have := (Cursor.step_field_names hfr hasc nm).1.mpr ((Cursor.fieldAhead_isSome c nm).mp (by rw [hx]; rfl))
        rw [s3] at this; cases this
    rw [hx, s2, s3]; exact ⟨rfl, rfl, rfl⟩

end Binson
