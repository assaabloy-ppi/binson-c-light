/-
  Traversal programs: the C++ `Binson::deserialize` recursion (`cppDesItem` / `cppDesItems` /
  `cppDesElems` of Model/Cpp.lean) along a descent (`Descent`) over a well-formed value rebuilds exactly
  that value; hence on the encoding of a well-formed document, where the agreement with the reference
  cursor produces the descent, it rebuilds the tree the bytes encode.
-/
import Binson.Lemmas.WalkCur
import Binson.Model.Cpp
namespace Binson

theorem walk_uint64_ofNat_toNat (b : UInt64) : UInt64.ofNat b.toNat = b := by
  simp

/-! ### `mapPut` with ascending keys appends -/

def walkAppF : Fields → Fields → Fields
  | .nil, b => b
  | .cons n v r, b => .cons n v (walkAppF r b)

theorem walk_appF_nil_right : ∀ a : Fields, walkAppF a .nil = a
  | .nil => rfl
  | .cons n v r => by rw [walkAppF, walk_appF_nil_right r]

theorem walk_appF_assoc : ∀ a b c : Fields, walkAppF (walkAppF a b) c = walkAppF a (walkAppF b c)
  | .nil, _, _ => rfl
  | .cons n v r, b, c => by simp only [walkAppF]; rw [walk_appF_assoc r b c]

theorem walk_names_appF : ∀ a b : Fields, (walkAppF a b).names = a.names ++ b.names
  | .nil, _ => rfl
  | .cons n v r, b => by simp [walkAppF, Fields.names, walk_names_appF r b]

/-- inserting a key above all present keys appends it -/
theorem walk_mapPut_appF : ∀ (acc : Fields) (prev : Option Bytes) (k : Bytes) (v : Value) (r : Fields),
    ascF prev (walkAppF acc (.cons k v r)) = true → mapPut acc k v = walkAppF acc (.cons k v .nil)
  | .nil, _, _, _, _, _ => rfl
  | .cons n x a, prev, k, v, r, h => by
    have hh : nameAfter prev n = true ∧ ascF (some n) (walkAppF a (.cons k v r)) = true := by simpa [walkAppF, ascF] using h
    have hlt : bytesLt n k = true :=
      ascF_lt n _ hh.2 k (by rw [walk_names_appF]; simp [Fields.names])
    rw [mapPut_cons, if_neg (by rw [bytesLt_asymm hlt]; simp), if_pos hlt, walk_mapPut_appF a (some n) k v r hh.2]
    rfl

/-! ### the program along a descent -/

mutual
theorem cppDesItem_descent (v : Value) (f : Nat) {p q : Parser} (hfu : tokens v ≤ f) (he : p.err = .none)
    (hwf : wfValue v = true) (h : Descent p q v) : cppDesItem f p = .ok (v, q) := by
  have hpos := walk_tokens_pos v
  obtain ⟨f, rfl⟩ : ∃ f', f = f' + 1 := ⟨f - 1, by omega⟩
  rw [cppDesItem]
  cases v with
  | bool b | int b | dbl b =>
    obtain ⟨ht, hb, rfl⟩ := h
    simp [he, ht, hb]
  | str s | bytes s =>
    obtain ⟨ht, ⟨sp, hs, hp⟩, rfl⟩ := h
    simp [he, ht, hs, hp]
  | obj fs =>
    obtain ⟨ht, g1, p2, hD, l1, rfl⟩ := h
    have hwf' : wfFields none fs = true := by simpa [wfValue] using hwf
    have d1 := cppDesItems_descent fs f .nil none (by simp only [tokens] at hfu; omega) hwf' (ascF_of_wfFields none fs hwf') hD
    simp [he, ht, g1, d1, l1, walkAppF]
  | arr xs =>
    obtain ⟨ht, g1, p2, hD, l1, rfl⟩ := h
    have d1 := cppDesElems_descent xs f (by simp only [tokens] at hfu; omega) (by simpa [wfValue] using hwf) hD
    simp [he, ht, g1, d1, l1]
/-- `deseralizeItems`: the `while (next)` loop over the remaining fields, appending to what has been put so far -/
theorem cppDesItems_descent (fs : Fields) (f : Nat) {p q : Parser} (acc : Fields) (prev : Option Bytes)
    (hfu : tokensF fs + 1 ≤ f) (hwf : wfFields prev fs = true) (hasc : ascF none (walkAppF acc fs) = true)
    (h : DescentF p q fs) : cppDesItems f p acc = .ok (walkAppF acc fs, q) := by
  obtain ⟨f, rfl⟩ : ∃ f', f = f' + 1 := ⟨f - 1, by omega⟩
  rw [cppDesItems]
  cases fs with
  | nil =>
    obtain ⟨n1, n2, rfl⟩ := h
    simp [n1, n2, walk_appF_nil_right]
  | cons n v r =>
    obtain ⟨n1, n2, ⟨s, gn1, gn2⟩, p2, hD, hD'⟩ := h
    have hh : ((nameAfter prev n = true ∧ n.length ≤ INT32_MAX) ∧ wfValue v = true) ∧ wfFields (some n) r = true := by
      simpa [wfFields] using hwf
    have d1 := cppDesItem_descent v f (by simp only [tokensF] at hfu; omega) n2 hh.1.2 hD
    have hput : mapPut acc n v = walkAppF acc (.cons n v .nil) := walk_mapPut_appF acc none n v r hasc
    have e1 := cppDesItems_descent r f (mapPut acc n v) (some n) (by simp only [tokensF] at hfu; omega) hh.2
      (by rw [hput, walk_appF_assoc]; exact hasc) hD'
    rw [hput, walk_appF_assoc] at e1
    simp [n1, gn1, n2, gn2, d1, hput, e1, walkAppF]
theorem cppDesElems_descent (xs : Elems) (f : Nat) {p q : Parser} (hfu : tokensE xs + 1 ≤ f) (hwf : wfElems xs = true)
    (h : DescentE p q xs) : cppDesElems f p = .ok (xs, q) := by
  obtain ⟨f, rfl⟩ : ∃ f', f = f' + 1 := ⟨f - 1, by omega⟩
  rw [cppDesElems]
  cases xs with
  | nil =>
    obtain ⟨n1, _, rfl⟩ := h
    simp [n1]
  | cons v r =>
    obtain ⟨n1, n2, p2, hD, hD'⟩ := h
    have hh : wfValue v = true ∧ wfElems r = true := by simpa [wfElems] using hwf
    have hpos := walk_tokens_pos v
    have d1 := cppDesItem_descent v f (by simp only [tokensE] at hfu; omega) n2 hh.1 hD
    have e1 := cppDesElems_descent r f (by simp only [tokensE] at hfu; omega) hh.2 hD'
    simp [n1, d1, e1]
end

theorem walk_desItem (v : Value) (f : Nat) (p : Parser) (c : Cursor) (nm : Option (Bytes × Span)) (off : Nat)
    (hfu : tokens v ≤ f) (hA : Agree p c) (fr0 : Frame) (fr : List Frame) (hfr : c.frames = fr0 :: fr)
    (hcur : c.cur = some (annotate nm off v)) (he : p.err = .none)
    (hm : ItemMatches p (annotate nm off v).item) (hwf : wfValue v = true) :
    ∃ p' c', cppDesItem f p = .ok (v, p') ∧ Agree p' c' ∧ c'.frames = c.frames := by
  obtain ⟨q, c', hD, hA', hf'⟩ := walk_descent v hA hfr hcur hm
  exact ⟨q, c', cppDesItem_descent v f hfu he hwf hD, hA', hf'⟩

/-- the `while (next) push_back(deseralizeItem)` loop over the remaining elements of the array entered -/
theorem walk_desElems (xs : Elems) (f : Nat) (p : Parser) (c : Cursor) (io : Bool) (fr : List Frame) (off : Nat)
    (hfu : tokensE xs + 1 ≤ f) (hA : Agree p c) (hfr : c.frames = ⟨io, annotateE off xs⟩ :: fr)
    (hwf : wfElems xs = true) :
    ∃ p' c', cppDesElems f p = .ok (xs, p') ∧ Agree p' c' ∧ c'.frames = ⟨io, []⟩ :: fr := by
  obtain ⟨q, c', hD, hA', hf'⟩ := walk_descentE xs hA hfr
  exact ⟨q, c', cppDesElems_descent xs f hfu hwf hD, hA', hf'⟩

end Binson
