/-
  Layer 4, corollaries: C11 — `binson_parser_get_raw` and `binson_parser_to_writer`.
  On a container that `next`/lookup has just returned, `get_raw` reports exactly the bytes of that
  container (BEGIN to matching END), which alone are a valid document of that kind at the same
  `max_depth`; the cursor continues behind the container; `parser_to_writer` appends exactly those
  bytes. (On anything else both return false and change nothing: `c11_raw_other`, directly from the code.)
-/
import Binson.Lemmas.NavCorNames
import Binson.Lemmas.WriterLemmas
import Binson.Model.Transcribe
namespace Binson

mutual
theorem navc_fits_mono (v : Value) (d d' a a' : Nat) (hd : d ≤ d') (ha : a ≤ a') (h : fits d a v = true) : fits d' a' v = true := by
  cases v with
  | obj fs =>
    have hh : 1 ≤ d ∧ fitsF (d - 1) fs = true := by simpa [fits] using h
    have := navc_fitsF_mono fs (d - 1) (d' - 1) (by omega) hh.2
    simp only [fits, Bool.and_eq_true, decide_eq_true_eq]
    exact ⟨by omega, this⟩
  | arr xs =>
    have hh : 1 ≤ a ∧ fitsE d (a - 1) xs = true := by simpa [fits] using h
    have := navc_fitsE_mono xs d d' (a - 1) (a' - 1) hd (by omega) hh.2
    simp only [fits, Bool.and_eq_true, decide_eq_true_eq]
    exact ⟨by omega, this⟩
  | _ => simp [fits]
theorem navc_fitsE_mono (xs : Elems) (d d' a a' : Nat) (hd : d ≤ d') (ha : a ≤ a') (h : fitsE d a xs = true) : fitsE d' a' xs = true := by
  cases xs with
  | nil => simp [fitsE]
  | cons v r =>
    have hh : fits d a v = true ∧ fitsE d a r = true := by simpa [fitsE] using h
    simp only [fitsE, Bool.and_eq_true]
    exact ⟨navc_fits_mono v d d' a a' hd ha hh.1, navc_fitsE_mono r d d' a a' hd ha hh.2⟩
theorem navc_fitsF_mono (fs : Fields) (d d' : Nat) (hd : d ≤ d') (h : fitsF d fs = true) : fitsF d' fs = true := by
  cases fs with
  | nil => simp [fitsF]
  | cons n v r =>
    have hh : fits d 255 v = true ∧ fitsF d r = true := by simpa [fitsF] using h
    simp only [fitsF, Bool.and_eq_true]
    exact ⟨navc_fits_mono v d d' 255 255 hd (Nat.le_refl _) hh.1, navc_fitsF_mono r d d' hd hh.2⟩
end

mutual
/-- the value a node stands for (inverse of `annotate`) -/
def Node.value : Node → Value
  | .mk it ch =>
    match it.ty with
    | .object => .obj (Node.valueF ch)
    | .array => .arr (Node.valueE ch)
    | .boolean => .bool (match it.val with | .bool b => b | _ => false)
    | .integer => .int (match it.val with | .int i => i | _ => 0)
    | .double => .dbl (match it.val with | .dbl d => UInt64.ofNat d | _ => 0)
    | .string => .str it.payload
    | _ => .bytes it.payload
def Node.valueE : List Node → Elems
  | [] => .nil
  | n :: r => .cons n.value (Node.valueE r)
def Node.valueF : List Node → Fields
  | [] => .nil
  | n :: r => .cons (nameOf n) n.value (Node.valueF r)
end

mutual
theorem navc_value_annotate (nm : Option (Bytes × Span)) (off : Nat) (w : Value) : (annotate nm off w).value = w := by
  cases w with
  | arr xs => simp [annotate, Node.value, navc_valueE_annotate (off + 1) xs]
  | obj fs => simp [annotate, Node.value, navc_valueF_annotate (off + 1) fs]
  | _ => simp [annotate, Node.value]
theorem navc_valueE_annotate (off : Nat) (xs : Elems) : Node.valueE (annotateE off xs) = xs := by
  cases xs with
  | nil => simp [annotateE, Node.valueE]
  | cons v r => simp [annotateE, Node.valueE, navc_value_annotate none off v, navc_valueE_annotate _ r]
theorem navc_valueF_annotate (off : Nat) (fs : Fields) : Node.valueF (annotateF off fs) = fs := by
  cases fs with
  | nil => simp [annotateF, Node.valueF]
  | cons n v r => simp [annotateF, Node.valueF, navc_value_annotate, navc_valueF_annotate _ r, nameOf_annotate]
end

theorem Cursor.allowed_raw {c : Cursor} (hfr : c.frames ≠ []) {n : Node} (hcur : c.cur = some n) : c.allowed .raw = true := by
  unfold Cursor.allowed
  cases hf : c.frames with
  | nil => exact absurd hf hfr
  | cons f fs => simp [hcur]

theorem Cursor.step_raw_cont {c : Cursor} {n : Node} (hcur : c.cur = some n) (hty : n.item.ty = .object ∨ n.item.ty = .array) :
    (c.step .raw).2 = ⟨true, none, some ⟨n.item.start, n.item.len⟩⟩ ∧ (c.step .raw).1.cur = none ∧
    (c.step .raw).1.frames = c.frames ∧ (c.step .raw).1.done = c.done ∧ (c.step .raw).1.arrayRoot = c.arrayRoot := by
  have : (n.item.ty == .object || n.item.ty == .array) = true := by
    rcases hty with h | h <;> rw [h] <;> rfl
  simp [Cursor.step, hcur, this]

def docSpan (v : Value) (n : Node) : Bytes := ((encode v).drop n.item.start).take n.item.len

/-- what the invariant knows about a container that is current: the node annotates a container
    value `w` whose encoding lies in front of the machine's read position -/
theorem Agree.pending_container {p : Parser} {c : Cursor} (h : Agree p c) (hfr : c.frames ≠ []) {n : Node}
    (hcur : c.cur = some n) (hty : n.item.ty = .object ∨ n.item.ty = .array) :
    ∃ w nm T j k, n = annotate nm p.used w ∧ w.isContainer = true ∧ p.rem = encode w ++ T ∧ wfValue w = true ∧
      fits (p.maxDepth - (j + 1)) (255 - k) w = true := by
  cases h with
  | start root v hc hF hmd hwf => subst hc; exact absurd rfl hfr
  | done hf hd => exact absurd hf hfr
  | run L Ls pend h =>
    cases pend with
    | none =>
      obtain ⟨_, _, h3⟩ := h.pend
      rcases h3 with h3 | ⟨n', h3, _, h5, h6⟩
      · rw [h3] at hcur; cases hcur
      · rw [h3] at hcur; injection hcur with hcur; subst hcur
        rcases hty with e | e
        · exact absurd e h5
        · exact absurd e h6
    | some w =>
      obtain ⟨h1, h2, _, ⟨nm, h4⟩, _, h6, h7⟩ := h.pend
      rw [h4] at hcur; injection hcur with hcur
      exact ⟨w, nm, _, _, _, hcur.symm, h1, h2, h6, h7⟩

theorem navc_container_cases {w : Value} (h : w.isContainer = true) :
    (∃ fs, w = .obj fs) ∨ (∃ xs, w = .arr xs) := by
  cases w with
  | obj fs => exact Or.inl ⟨fs, rfl⟩
  | arr xs => exact Or.inr ⟨xs, rfl⟩
  | _ => cases h

/-- a container value that fits below some state entry is, alone, a document of its kind that
    fits the whole depth configuration -/
theorem navc_wfDoc_sub {w : Value} {md j k : Nat} (hc : w.isContainer = true) (hw : wfValue w = true)
    (hf : fits (md - (j + 1)) (255 - k) w = true) : wfDoc (rootOf w) md w = true := by
  rcases navc_container_cases hc with ⟨fs, rfl⟩ | ⟨xs, rfl⟩
  · have := navc_fits_mono (.obj fs) _ md _ 255 (by omega) (by omega) hf
    simp [wfDoc, rootOf, rootKindOk, hw, this]
  · have := navc_fits_mono (.arr xs) _ (md - 1) _ 255 (by omega) (by omega) hf
    simp [wfDoc, rootOf, rootKindOk, hw, this]

theorem machNav_raw (p : Parser) :
    machNav p .raw = ((getRaw p).1, (getRaw p).2.1, if (getRaw p).2.1 then some (getRaw p).2.2 else none) := rfl

section
variable {g : Parser} {root : Root} {v : Value} {p : Parser} {c : Cursor}

/-- `get_raw` on a container just returned by `next`/lookup.
    * it returns true and the span of the node (`start`, `len`);
    * the node annotates the container value `w = n.value` (`n = annotate nm start w`), and the bytes of
      the span in the document are exactly `encode w`: first byte the BEGIN byte, last the matching END byte;
    * `w` alone is a well-formed document of its kind at the same `max_depth`, so init + verify (from
      any allocated parser object `g'` with that `max_depth`) accept exactly those bytes;
    * nothing is wrong afterwards, the container is consumed, the cursor continues with the element
      that follows it (same frames), and the pair is reachable again. -/
theorem raw_container (h : Reachable g root v p c) (hfr : c.frames ≠ []) {n : Node} (hcur : c.cur = some n)
    (hty : n.item.ty = .object ∨ n.item.ty = .array) :
    (getRaw p).2 = (true, ⟨n.item.start, n.item.len⟩) ∧
    (∃ nm, n = annotate nm n.item.start n.value) ∧
    docSpan v n = encode n.value ∧ n.item.len = (encode n.value).length ∧
    ((n.item.ty = .object ∧ ∃ fs, n.value = .obj fs ∧ docSpan v n = 0x40 :: (encFields fs ++ [0x41])) ∨
     (n.item.ty = .array ∧ ∃ xs, n.value = .arr xs ∧ docSpan v n = 0x42 :: (encElems xs ++ [0x43]))) ∧
    wfDoc (rootOf n.value) g.maxDepth n.value = true ∧
    (∀ g', Alloc g' → g'.maxDepth = g.maxDepth →
      (init g' (docSpan v n).toArray (rootNum (rootOf n.value))).2 = true ∧
      (verify (init g' (docSpan v n).toArray (rootNum (rootOf n.value))).1).2.1 = true) ∧
    (getRaw p).1.err = .none ∧ (getRaw p).1.fault = false ∧
    (c.step .raw).1.cur = none ∧ (c.step .raw).1.frames = c.frames ∧
    Reachable g root v (getRaw p).1 (c.step .raw).1 := by
  have hA := reachable_agree h
  have ha := Cursor.allowed_raw hfr hcur
  obtain ⟨o1, o2, o3, o4, _⟩ := reachable_obs h .raw ha
  obtain ⟨s1, s2, s3, _⟩ := Cursor.step_raw_cont hcur hty
  rw [machNav_raw, s1] at o1 o2
  simp only at o1 o2
  rw [o1] at o2
  simp only [if_true] at o2
  injection o2 with o2
  obtain ⟨w, nm, T, j, k, hn, hc, hrem, hwf, hfit⟩ := hA.pending_container hfr hcur hty
  have hstart : n.item.start = p.used := by rw [hn, annotate_item_start]
  have hlen : n.item.len = (encode w).length := by rw [hn, annotate_item_len _ _ _ hc]
  have hbuf : p.buf.toList = encode v := by rw [h.buf]
  have hspan : docSpan v n = encode w := by
    unfold docSpan
    unfold Parser.rem at hrem
    rw [hstart, hlen, ← hbuf, hrem]
    simp
  have hle : (encode w).length ≤ (encode v).length := by
    have := congrArg List.length hrem
    unfold Parser.rem at this
    rw [hbuf] at this
    simp only [List.length_drop, List.length_append] at this
    omega
  have hdoc : wfDoc (rootOf w) g.maxDepth w = true := by
    rw [← h.maxDepth]; exact navc_wfDoc_sub hc hwf hfit
  have hv : n.value = w := by
    have := navc_value_annotate nm p.used w
    rw [← hn] at this; exact this
  rw [hv]
  refine ⟨Prod.ext o1 o2, ⟨nm, by rw [hstart]; exact hn⟩, hspan, hlen, ?_, hdoc, ?_, o3, o4, s2, s3, reachable_step h .raw ha⟩
  · rw [hspan]
    rcases navc_container_cases hc with ⟨fs, rfl⟩ | ⟨xs, rfl⟩
    · exact Or.inl ⟨by rw [hn]; exact annotate_ty_obj _ _ _, fs, rfl, by simp [encode]⟩
    · exact Or.inr ⟨by rw [hn]; exact annotate_ty_arr _ _ _, xs, rfl, by simp [encode]⟩
  · intro g' hal hmd
    rw [hspan]
    have := verify_wellformed g' hal (by rw [hmd]; exact h.1.md) (rootOf w) w (by rw [hmd]; exact hdoc)
      (Nat.lt_of_le_of_lt hle h.1.sz)
    exact ⟨this.1, this.2.2.1⟩

/-- the writer after the bytes `data` have been stored at its write position -/
def Writer.appended (W : Writer) (data : Bytes) : Writer :=
  { W with mem := storeAt W.mem W.used data, fault := W.fault || decide (W.mem.size < W.used + data.length), used := W.used + data.length }

theorem Writer.appended_mem (W : Writer) (data : Bytes) (h : W.used + data.length ≤ W.mem.size) :
    (W.appended data).mem.toList = W.mem.toList.take W.used ++ data ++ W.mem.toList.drop (W.used + data.length) ∧
    (W.appended data).fault = W.fault := by
  refine ⟨storeAt_toList W.mem W.used data h, ?_⟩
  show (W.fault || decide (W.mem.size < W.used + data.length)) = W.fault
  have : decide (W.mem.size < W.used + data.length) = false := decide_eq_false (by omega)
  rw [this, Bool.or_false]

/-- `binson_parser_to_writer` on a container just returned: a healthy writer (no error
    latched, non-NULL buffer, `buffer_size` below 2^64) with room for the span gets exactly the
    bytes of the container appended at its write position, its counter advances by their number,
    and the call returns true. `binson_write_raw` has no INT32_MAX limit on the length, so none is
    needed here. (`Writer.appended_mem`: if the claimed room really exists in `mem`, the other bytes
    of `mem` stay and no out-of-bounds store happens.) -/
theorem to_writer_appends (h : Reachable g root v p c) (hfr : c.frames ≠ []) {n : Node} (hcur : c.cur = some n)
    (hty : n.item.ty = .object ∨ n.item.ty = .array)
    (W : Writer) (he : W.err = .none) (hb : W.bufNull = false) (hroom : W.used + n.item.len ≤ W.cap) (hcap : W.cap < two64) :
    parserToWriter p W = ((getRaw p).1, W.appended (docSpan v n), true) ∧
    (docSpan v n).length = n.item.len ∧
    (W.appended (docSpan v n)).used = W.used + n.item.len ∧ (W.appended (docSpan v n)).err = .none := by
  obtain ⟨r1, _, hspan, hlen, _, _, _, _, _, _, _, hR⟩ := raw_container h hfr hcur hty
  have hlen2 : (docSpan v n).length = n.item.len := by rw [hspan, hlen]
  have hbuf' : (getRaw p).1.buf = p.buf := by rw [hR.buf, h.buf]
  have hsl : (getRaw p).1.slice (getRaw p).2.2 = docSpan v n := by
    rw [r1]
    show (getRaw p).1.slice ⟨n.item.start, n.item.len⟩ = _
    rw [slice_congr hbuf']
    unfold docSpan Parser.slice
    simp only [Array.toList_extract, List.extract_eq_take_drop, Nat.add_sub_cancel_left]
    rw [h.buf]
  have hpw : parserToWriter p W = ((getRaw p).1, (W.write ((getRaw p).1.slice (getRaw p).2.2)).1,
      (W.write ((getRaw p).1.slice (getRaw p).2.2)).2) := by
    unfold parserToWriter
    have : (getRaw p).2.1 = true := by rw [r1]
    simp only [this, Bool.not_true, Bool.false_eq_true, if_false]
    rfl
  rw [hpw, hsl, write_ok W (docSpan v n) hb he (by rw [hlen2]; exact hroom) hcap]
  refine ⟨rfl, hlen2, ?_, he⟩
  show W.used + (docSpan v n).length = _
  rw [hlen2]

end

end Binson
