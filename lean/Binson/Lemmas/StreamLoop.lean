/-
  C08: the loop body from the not-yet-entered state and from the closed state; the
  invariant `Inv` through the whole loop and through `_advance_parsing`, in every scan mode.
-/
import Binson.Lemmas.StreamStep2
namespace Binson

section
variable {buf : Array UInt8} {md t : Nat}

theorem FlagsSim.undef {f' : Flags} (h : FlagsSim .undef f') : f' = .undef := by
  rcases h with h | ⟨h, _⟩
  · exact h
  · rcases h with h | h <;> cases h

theorem ZF.lvlIdx {p : Parser} (hF : ZF buf md t p) : p.lvlIdx = 0 := by
  unfold Parser.lvlIdx
  rw [hF.depth]
  rcases hF.root with ⟨h, _⟩ | ⟨h, _⟩ <;> rw [h] <;> rfl

/-- nothing consumed in the not-yet-entered state -/
theorem ZF.same {p q : Parser} (hF : ZF buf md t p) (hs : Shape q) (he : q.err = .none) (fr : p.Frame q)
    (hu : q.used = p.used) (hd : q.depth = p.depth)
    (L' : Level) (hsim : (p.getLvl p.lvlIdx).Sim L') (hg : ∀ j, q.getLvl j = if j = p.lvlIdx then L' else p.getLvl j) :
    ZF buf md t q := by
  rw [hF.lvlIdx] at hsim hg
  obtain ⟨s1, s2, s3⟩ := hsim
  rw [hF.flags0] at s3
  refine ⟨hs, he, fr.2.1.trans hF.hbuf, fr.2.2.1.trans hF.hmd, hF.md255, fr.2.2.2.1.trans hF.hpt, ?_, hd.trans hF.depth, hu.trans hF.used, ?_, ?_, ?_, ?_⟩
  · rw [rem_same fr.2.1 hu]; exact hF.root
  · rw [hg, if_pos rfl]; exact s3.undef
  · rw [hg, if_pos rfl, s1]; exact hF.ad0
  · rw [hg, if_pos rfl, s2]; exact hF.name0
  · intro i hi
    rw [hg, if_neg (by omega)]; exact hF.zeros i hi

/-- the root container has been entered: its BEGIN byte `b` is consumed, entry 0 mirrors the root
    group `g`, which so far encodes as that byte -/
theorem ZF.enter {p q : Parser} {g : Grp} (hF : ZF buf md t p) (hs : Shape q) (he : q.err = .none) (fr : p.Frame q)
    (hd : q.depth = 1) (hz : ∀ i, 1 ≤ i → q.getLvl i = Level.zero)
    (hl : LvOk buf (q.getLvl 0) g true) (hk : GrpOk (md - 1) g) (hv : g.virt = true ↔ t = 2)
    (b : UInt8) (rs : Bytes) (hrem : p.rem = b :: rs) (hu : q.used = p.used + 1) (henc : encGrp g = [b]) :
    ZG buf md t q [g] := by
  have hb : buf.toList = p.rem := by unfold Parser.rem; rw [hF.used, hF.hbuf]; rfl
  refine ⟨hs, he, fr.2.1.trans hF.hbuf, fr.2.2.1.trans hF.hmd, hF.md255, fr.2.2.2.1.trans hF.hpt, hF.root.imp And.left And.left,
    hd, List.cons_ne_nil _ _, fun i hi => hz i (hd ▸ hi), ⟨hl, hk, ⟨fun h => ⟨rfl, hv.mp h⟩, fun h => hv.mpr h.2⟩, trivial⟩, ?_⟩
  rw [hb, hrem, rem_step hF.shape hrem fr hu]
  show b :: rs = [] ++ encGrp g ++ rs
  rw [henc]
  rfl

theorem zf_iter {st : LoopSt} (hF : ZF buf md t st.p) (sn : Option (List UInt8)) (oa od : Nat) :
    Res buf md t (iter st sn oa od).1.p := by
  have hsh := hF.shape
  have he := hF.err
  have hspec := iter_spec st sn oa od hsh he
  have hRs := hspec.shape
  have hfr := hspec.frame
  have hidx := hF.lvlIdx
  have hvp : ValPos (st.p.getLvl st.p.lvlIdx).flags := by
    rw [hidx, hF.flags0]; exact Or.inr (Or.inr (Or.inr rfl))
  rcases hF.root with ⟨rfl, rs, hrem⟩ | ⟨rfl, rs, hrem⟩
  · have hd0 : st.p.depth = 0 := hF.depth
    rcases tok_objBegin sn oa od hsh he rs hrem hvp _ rfl with h | ⟨r1, r2, r3, r4, L', a1, a2, a3, r5⟩ | ⟨r1, r2, r3, L', hsim, r5⟩
    · exact Or.inl h
    · -- entry 0 is both the current one and the one of the new level
      rw [hidx, hd0, if_pos rfl] at r5
      rw [hidx] at a1 a2
      refine Or.inr (Or.inr (Or.inl ⟨[newGrp], hF.enter hRs r1 hfr (by rw [r3, hd0]) (fun i hi => ?_) ?_ (GrpOk_new _)
        ⟨fun h => (by cases h), fun h => (by cases h)⟩ 0x40 rs hrem r2 encGrp_new⟩))
      · rw [r5, if_neg (by omega), if_neg (by omega)]
        exact hF.zeros i hi
      · rw [r5, if_pos rfl]
        exact ⟨a1.trans hF.ad0, fun h => absurd rfl h, fun _ _ => Or.inl ⟨rfl, rfl⟩, fun _ h => (by cases h),
          fun _ => by show Option.map (sliceB buf) L'.name = none; rw [a2, hF.name0]; rfl⟩
    · exact Or.inr (Or.inl (hF.same hRs r1 hfr r2 r3 L' hsim r5))
  · have hd1 : st.p.depth = 1 := hF.depth
    rcases tok_arrBegin sn oa od hsh he rs hrem hvp _ rfl with h | ⟨r1, r2, r3, r4, L', a1, a2, a3, r5⟩ | ⟨r1, r2, r3, L', hsim, r5⟩
    · exact Or.inl h
    · rw [hidx] at r5 a1 a2
      refine Or.inr (Or.inr (Or.inl ⟨[rootArrGrp], hF.enter hRs r1 hfr (by rw [r3, hd1]) (fun i hi => ?_) ?_ (GrpOk_rootArr _)
        ⟨fun _ => rfl, fun _ => rfl⟩ 0x42 rs hrem r2 rfl⟩))
      · rw [r5, if_neg (by omega)]
        exact hF.zeros i hi
      · rw [r5, if_pos rfl]
        exact ⟨by rw [a1, hF.ad0]; rfl, fun _ => Or.inl a3, fun h => (by cases h), fun h => (by cases h), fun h => (by cases h)⟩
    · exact Or.inr (Or.inl (hF.same hRs r1 hfr r2 r3 L' hsim r5))

theorem classify_eof {p : Parser} (hs : Shape p) (he : p.err = .none) (hu : p.used = p.size) (bc0 : Nat) :
    (classify p bc0).tok = .error := by
  rcases classify_spec hs he bc0 with ⟨h, _⟩ | ⟨_, c⟩
  · exact h
  · exfalso
    cases hbe : (classify p bc0).tok.isBeginEnd with
    | true => have := (c.be hbe).2.2.2; omega
    | false =>
      have h1 := c.sc hbe
      have h2 := c.shape.hus
      have h3 : (classify p bc0).p.size = p.size := c.frame.2.2.2.1
      omega

/-- the parser between two passes through the loop body, and between two calls -/
structure Inv (buf : Array UInt8) (md t : Nat) (p : Parser) : Prop where
  shape : Shape p
  hbuf : p.buf = buf
  hmd : p.maxDepth = md
  hpt : p.ptype = t
  res : Res buf md t p

theorem Inv.ofErr {p : Parser} (hs : Shape p) (hb : p.buf = buf) (hm : p.maxDepth = md) (ht : p.ptype = t) (he : p.err ≠ .none) :
    Inv buf md t p := ⟨hs, hb, hm, ht, Or.inl he⟩

theorem iter_inv {st : LoopSt} (hI : Inv buf md t st.p) (he : st.p.err = .none) (sn : Option (List UInt8)) (oa od : Nat) :
    Inv buf md t (iter st sn oa od).1.p := by
  have hspec := iter_spec st sn oa od hI.shape he
  have hfr := hspec.frame
  refine ⟨hspec.shape, hfr.2.1.trans hI.hbuf, hfr.2.2.1.trans hI.hmd, hfr.2.2.2.1.trans hI.hpt, ?_⟩
  rcases hI.res with h | hF | ⟨gs, hZ⟩ | ⟨hu, _⟩
  · exact absurd he h
  · exact zf_iter hF sn oa od
  · exact zg_iter hZ sn oa od
  · exact Or.inl (iter_err_classify hI.shape he (classify_eof hI.shape he hu st.bc))

theorem advance_inv (p : Parser) (scan : Scan) (sn : Option (List UInt8)) (hI : Inv buf md t p) :
    Inv buf md t (advance p scan sn).p := by
  by_cases he : p.err = .none
  · obtain ⟨st', e, hq⟩ := advance_ind p hI.shape he scan sn (fun st => Inv buf md t st.p ∧ st.p.err = .none)
      (fun st _ => Inv buf md t st.p) ⟨hI, he⟩ (fun st ⟨hJ, hn⟩ =>
        have h1 := iter_inv hJ hn sn (p.getLvl p.cur).ad p.depth
        ⟨fun h => ⟨h1, ((iter_spec st sn _ _ hJ.shape hn).cont h).1⟩, fun _ => h1, fun _ _ => h1⟩)
    rw [e]
    exact hq
  · rw [advance_err p scan sn he]
    exact hI

end
end Binson
