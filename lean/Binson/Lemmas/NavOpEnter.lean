/-
  Layer 4: `go_into_object` / `go_into_array` on the container `next` stopped at.
-/
import Binson.Lemmas.NavOpNext
namespace Binson

theorem flat_ne_nil {ar : Bool} {L : RLevel} {Ls : List RLevel} (h : BaseOk ar L Ls) : ∃ f fr, flat (L :: Ls) = f :: fr := by
  obtain ⟨pv, b, arrs⟩ := L
  cases arrs with
  | cons xs r => exact ⟨_, _, flat_arr pv b xs r Ls⟩
  | nil =>
    cases b with
    | some fs => exact ⟨_, _, flat_obj pv fs Ls⟩
    | none =>
      cases Ls with
      | nil => exact absurd rfl (h.2 rfl)
      | cons _ _ => exact absurd rfl h.1

namespace Run

variable {p : Parser} {c : Cursor} {L : RLevel} {Ls : List RLevel}

theorem adv_enter_obj {fs : Fields} (h : Run p c L Ls (some (.obj fs))) :
    (advance p .enterObj none).ret = true ∧
    Run (advance p .enterObj none).p (mkCur c.arrayRoot p.size (flat (⟨none, some fs, []⟩ :: L :: Ls)) none)
      ⟨none, some fs, []⟩ (L :: Ls) none := by
  have hli := h.lvlIdx
  obtain ⟨_, h2, h3, _, _, h6, h7⟩ := h.pend
  have hsh := h.shape
  have hrem' : p.rem = 0x40 :: (encFields fs ++ 0x41 :: tailBytes (flat (L :: Ls))) := by simpa [encode] using h2
  have hfit' : (1 ≤ p.maxDepth - (Ls.length + 1)) ∧ fitsF (p.maxDepth - (Ls.length + 1) - 1) fs = true := by
    simpa [fits] using h7
  have hd := h.depth
  obtain ⟨lv1, lv2, hob, hab, b1, b2, _, b5, b6, _⟩ :=
    blocks_begin_orig (tok := .objBegin) (d := p.depth) (oa := (p.getLvl p.cur).ad) (od := p.depth)
      (Or.inl rfl) h.pendFlags.1 (by rw [hsh.hcur]) rfl .object (some .enterObj)
  rw [if_neg h.pendFlags.2] at hab
  obtain ⟨st', i1, hr1, r1⟩ := iter_objBegin_entered (st := ⟨p, some .enterObj, 0, []⟩) (sn := none) hsh h.err _ hrem'
    lv1 lv2 (some .enterObj) hob hab rfl ⟨by have := h.md; show p.depth < 255; omega, by show p.depth < p.maxDepth; omega⟩
  simp only at r1
  rw [if_neg (by omega), h.zeros _ (Nat.le_refl _)] at r1
  obtain ⟨e1, e2⟩ := advance_of_halts hsh h.err .enterObj none (Halts.stop i1 r1.err)
  rw [e1, e2]
  have hlv : ∀ i, st'.p.getLvl i = if i = Ls.length + 1 then freshObjLevel else if i = Ls.length then lv2 else p.getLvl i := by
    intro i; rw [r1.lvl, hd, hli]; rfl
  have hlow : ∀ i, i < Ls.length → st'.p.getLvl i = p.getLvl i := by
    intro i hi
    rw [hlv, if_neg (by omega), if_neg (by omega)]
  have hmd : st'.p.maxDepth = p.maxDepth := r1.frame.2.2.1
  have hbuf : st'.p.buf = p.buf := r1.frame.2.1
  have hLold : st'.p.getLvl Ls.length = lv2 := by rw [hlv]; simp
  have hLnew : st'.p.getLvl (Ls.length + 1) = freshObjLevel := by rw [hlv]; simp
  refine ⟨rfl, of_frame h.md h.aroot r1.shape r1.err r1.frame (by rw [r1.depth, hd]; rfl) ?_ ⟨by simp, h.base⟩ ⟨?_, ?_, ?_, trivial⟩
    ⟨?_, ?_, h.susp.transfer hlow hbuf hmd⟩ ⟨?_, ?_, Or.inl rfl⟩⟩
  · intro i hi
    rw [r1.depth, hd] at hi
    rw [hlv, if_neg (by omega), if_neg (by omega)]
    exact h.zeros i (by rw [hd]; omega)
  · show (st'.p.getLvl (Ls.length + 1)).ad = 0; rw [hLnew]; rfl
  · show (st'.p.getLvl (Ls.length + 1)).name.map st'.p.slice = none; rw [hLnew]; rfl
  · intro fs' hfs
    cases hfs
    refine ⟨by simpa [wfValue] using h6, ?_⟩
    show fitsF (st'.p.maxDepth - (Ls.length + 1 + 1)) fs = true
    rw [hmd, show p.maxDepth - (Ls.length + 1 + 1) = p.maxDepth - (Ls.length + 1) - 1 by omega]
    exact hfit'.2
  · exact h.top.transfer (by rw [hLold, b1, hli]) (by rw [hLold, b2, hli]) hbuf hmd
  · rw [hLold]; exact nflags_of_pflags (by rw [hli]; exact h3) b5 b6
  · rw [hr1, flat_obj]; rfl
  · show (st'.p.getLvl (Ls.length + 1)).flags = _; rw [hLnew]; rfl

theorem adv_enter_arr {pv : Option Bytes} {b : Option Fields} {arrs : List Elems} {xs : Elems}
    (h : Run p c ⟨pv, b, arrs⟩ Ls (some (.arr xs))) :
    (advance p .enterArr none).ret = true ∧
    Run (advance p .enterArr none).p (mkCur c.arrayRoot p.size (flat (⟨pv, b, xs :: arrs⟩ :: Ls)) none)
      ⟨pv, b, xs :: arrs⟩ Ls none := by
  have hli := h.lvlIdx
  obtain ⟨_, h2, h3, _, _, h6, h7⟩ := h.pend
  have hsh := h.shape
  have hrem' : p.rem = 0x42 :: (encElems xs ++ 0x43 :: tailBytes (flat (⟨pv, b, arrs⟩ :: Ls))) := by simpa [encode] using h2
  have hfit' : (1 ≤ 255 - arrs.length) ∧ fitsE (p.maxDepth - (Ls.length + 1)) (255 - arrs.length - 1) xs = true := by
    simpa [fits] using h7
  have hd := h.depth
  have had := h.top.ad
  simp only at had
  obtain ⟨lv1, lv2, hob, hab, b1, b2, _⟩ :=
    blocks_begin_orig (tok := .arrBegin) (d := p.depth) (oa := (p.getLvl p.cur).ad) (od := p.depth)
      (Or.inr rfl) h.pendFlags.1 (by rw [hsh.hcur]) rfl .array (some .enterArr)
  rw [if_neg h.pendFlags.2] at hab
  obtain ⟨st', i1, hr1, r1⟩ := iter_arrBegin_entered (st := ⟨p, some .enterArr, 0, []⟩) (sn := none) hsh h.err _ hrem'
    lv1 lv2 (some .enterArr) hob hab (by rw [b1, hli, had]; omega) rfl
  simp only at r1
  obtain ⟨e1, e2⟩ := advance_of_halts hsh h.err .enterArr none (Halts.stop i1 r1.err)
  rw [e1, e2]
  have hlv : ∀ i, st'.p.getLvl i = if i = Ls.length then { lv2 with flags := .arr1, ad := lv2.ad + 1 } else p.getLvl i := by
    intro i; rw [r1.lvl, hli]
  have hmd : st'.p.maxDepth = p.maxDepth := r1.frame.2.2.1
  have hL : st'.p.getLvl Ls.length = { lv2 with flags := .arr1, ad := lv2.ad + 1 } := by rw [hlv]; simp
  refine ⟨rfl, h.next_state r1.shape r1.err r1.frame r1.depth (fun i hi => by rw [hlv]; simp [Nat.ne_of_lt hi]) ?_
    ⟨pv, b, xs :: arrs⟩ none none (BaseOk_congr h.base (by simp) (by simp))
    (h.top.withArrs (by rw [hL]; simp only [List.length_cons, b1]; rw [hli, had]) (by rw [hL, ← hli]; exact b2) r1.frame.2.1 hmd
      ⟨by simpa [wfValue] using h6, by rw [show 255 - (arrs.length + 1) = 255 - arrs.length - 1 by omega]; exact hfit'.2, h.top.arrs⟩)
    ⟨by rw [hr1, tail_arr], by rw [hL]; rfl, Or.inl rfl⟩⟩
  intro i hi
  rw [r1.depth, hd] at hi
  rw [hlv, if_neg (by omega)]
  exact h.zeros i (by rw [hd]; omega)

end Run

end Binson
