/-
  Traversal programs: `Binson::deserialize` on valid documents (C15 deserialize half, C03
  full traversal): from a fresh parser, from ANY shaped parser over the same bytes (history
  freedom: overload 3 on a parser that has been used before), from the depth-10 stack parser of
  overloads 1/2; the round trips with `serialize()`.
-/
import Binson.Lemmas.WalkDes
import Binson.Lemmas.Latch
import Binson.Lemmas.CppSer
import Binson.Lemmas.VerifySound
namespace Binson

/-- **History freedom on valid documents (overload 3).** `Binson::deserialize(binson_parser*)` on ANY
    shaped parser object over the encoding of a well-formed object document - in the middle of a
    traversal, with its error flag set, whatever its state entries hold - returns exactly the tree
    the bytes encode. (`Shape` carries `p.buf.size = p.size < 2^63`.) -/
theorem cppDesP_history_free (p : Parser) (hs : Shape p) (fs : Fields) (md : Nat)
    (hbuf : p.buf = (encode (.obj fs)).toArray) (hpt : p.ptype = 1) (hmd : p.maxDepth = md) (hmd255 : md ≤ 255)
    (hwf : wfDoc .object md (.obj fs) = true) :
    cppDeserializeP p = .ok fs := by
  obtain ⟨r1, hF, hA⟩ := reset_encode_start (root := .object) hs hbuf hpt hmd hmd255 hwf
  obtain ⟨e1, p2, hD, e3⟩ := walk_descent_rootObj hA
  have hwv : wfFields none fs = true := by simpa [wfValue] using wfValue_of_wfDoc hwf
  have e2 := cppDesItems_descent fs (2 * (reset p).1.size + 4) .nil none
    (by have := walk_fuel hF; simp only [tokens] at this; omega) hwv (ascF_of_wfFields none fs hwv) hD
  unfold cppDeserializeP
  simp only [r1, e1, e2, e3]
  simp [walkAppF]

/-- the result depends on the parser object only through `reset` -/
theorem cppDesP_reset_only (p q : Parser) (h : reset p = reset q) : cppDeserializeP p = cppDeserializeP q := by
  unfold cppDeserializeP
  rw [h]

/-- **History freedom on arbitrary bytes.** Two shaped parser objects over the same buffer and
    configuration give the same result (value or exception), whatever their histories. -/
theorem cppDesP_frame_eq (p q : Parser) (hp : Shape p) (hq : Shape q) (fr : p.Frame q) (ht : p.ptype = 1 ∨ p.ptype = 2) :
    cppDeserializeP p = cppDeserializeP q := by
  obtain ⟨e1, e2⟩ := reset_frame_obsEq p q hp hq fr ht
  have hok := reset_ok_err p (by have := hp.hmd; omega) hp.hbs
  unfold cppDeserializeP
  generalize reset p = r1 at e1 e2 hok
  generalize reset q = r2 at e1 e2
  obtain ⟨p1, ok1⟩ := r1
  obtain ⟨q1, ok2⟩ := r2
  simp only at e1 e2 hok ⊢
  subst e1
  cases ok1
  · rfl
  · have : p1 = q1 := e2.eq_of_noerr (hok rfl)
    subst this
    rfl

theorem walk_garbage_alloc : Alloc (garbageParser 10) := ⟨rfl, by decide, rfl, rfl⟩

/-- **C15 / C03, deserialize half.** `Binson::deserialize(data, size)` (a depth-10 parser on the
    stack) on the encoding of a well-formed object document nested at most 10 deep returns EXACTLY
    the tree the bytes encode: every name, string and bytes payload, integer, double bit pattern,
    boolean and nested container, in order. -/
theorem cppDes_valid (fs : Fields) (hwf : wfDoc .object 10 (.obj fs) = true) (hsz : (encode (.obj fs)).length < 2 ^ 63) :
    cppDeserialize (encode (.obj fs)).toArray = .ok fs := by
  obtain ⟨hi, hF, _, _⟩ := verify_wellformed (garbageParser 10) walk_garbage_alloc (by decide) .object (.obj fs) hwf hsz
  have hP := cppDesP_history_free (init (garbageParser 10) (encode (.obj fs)).toArray 1).1 hF.shape fs 10 hF.buf hF.ptype
    hF.maxDepth (by decide) hwf
  unfold cppDeserialize
  have hi' : (init (garbageParser 10) (encode (.obj fs)).toArray 1).2 = true := hi
  simp only [hi', hP]
  simp

/-- round trip: `deserialize(serialize())` of a well-formed tree is the tree -/
theorem cppDes_cppSer (fs : Fields) (hwf : wfDoc .object 10 (.obj fs) = true) (hsz : (encode (.obj fs)).length < 2 ^ 63) :
    cppDeserialize (cppSerialize fs).toArray = .ok fs := by
  rw [cppSerialize_canonical fs (wfValue_of_wfDoc hwf) (by omega)]
  exact cppDes_valid fs hwf hsz

/-- round trip for a tree built by `put()` calls in any order from admissible values nested at most
    10 objects deep: `deserialize(serialize())` gives back the map content -/
theorem cppDes_cppSer_putAll (ins : Fields) (hi : insOkF ins = true) (hd : fits 10 255 (.obj ins) = true)
    (hsz : (encode (.obj ins)).length < 2 ^ 63) :
    cppDeserialize (cppSerialize (putAllF ins .nil)).toArray = .ok (putAllF ins .nil) := by
  have h := encode_putAll_length (.obj ins)
  simp only [putAll] at h
  exact cppDes_cppSer _ (wfDoc_putAll 10 ins hi hd) (by omega)

/-- valid bytes: whatever verify accepts is deserialized, and serializing the result reproduces the
    bytes -/
theorem cppDes_of_verify (bytes : Array UInt8) (hsz : bytes.size < 2 ^ 63)
    (hi : (init (garbageParser 10) bytes 1).2 = true) (hv : (verify (init (garbageParser 10) bytes 1).1).2.1 = true) :
    ∃ fs, cppDeserialize bytes = .ok fs ∧ cppSerialize fs = bytes.toList ∧ wfDoc .object 10 (.obj fs) = true ∧
      encode (.obj fs) = bytes.toList := by
  obtain ⟨v, hwf, rfl⟩ := verify_sound_enc (garbageParser 10) walk_garbage_alloc (by decide) bytes hsz .object hi hv
  have hwf10 : wfDoc .object 10 v = true := hwf
  have hrk := rootKindOk_of_wfDoc hwf10
  cases v with
  | obj fs =>
    have hl : (encode (.obj fs)).length < 2 ^ 63 := by simpa using hsz
    exact ⟨fs, cppDes_valid fs hwf10 hl, cppSerialize_canonical fs (wfValue_of_wfDoc hwf10) (by omega), hwf10, rfl⟩
  | _ => simp [rootKindOk] at hrk

/-- `cppDes_iff`, direction (⇐): deserialize returns normally whenever verify accepts -/
theorem cppDes_of_verify' (bytes : Array UInt8) (hsz : bytes.size < 2 ^ 63)
    (h : (init (garbageParser 10) bytes 1).2 = true ∧ (verify (init (garbageParser 10) bytes 1).1).2.1 = true) :
    ∃ fs, cppDeserialize bytes = .ok fs := by
  obtain ⟨fs, h1, _⟩ := cppDes_of_verify bytes hsz h.1 h.2
  exact ⟨fs, h1⟩

end Binson
