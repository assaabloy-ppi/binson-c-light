/-
  Traversal on ARBITRARY bytes: `binson_parser_next` (scan mode VALUE) - if no error is
  pending afterwards the depth is unchanged, and when it returns true with an object as the
  current type, a `{` is at the cursor.
-/
import Binson.Lemmas.WalkRaw
namespace Binson

/-- the current entry says "object" only with a `{` at the cursor -/
def walkPend (q : Parser) : Prop := (q.getLvl q.cur).ctype = .object → ∃ rs, q.rem = 0x40 :: rs

/-- `C` (goes on), `S` (stops), `R` (returns) of `WalkPost` for `next`; `od`: the depth at the call -/
def walkVC (od : Nat) (q : Parser) (s : Option Scan) : Prop := od ≤ q.depth ∧ (s = some .value ∨ (s = none ∧ q.depth = od))
def walkVS (od : Nat) (q : Parser) : Prop := q.err = .none ∧ q.depth = od ∧ walkPend q
def walkVR (od : Nat) (q : Parser) : Prop := q.err ≠ .none ∨ q.depth = od

/-- the current entry has been given a type other than "object" -/
theorem walk_pend_stored {q r : Parser} {u : Nat} {L : Level} (W : Stored q u q.lvlIdx L r) (hq : Shape q)
    (h : L.ctype ≠ .object) : walkPend r := by
  intro hc
  rw [W.cur, hq.hcur, W.lvl, if_pos rfl] at hc
  exact absurd hc h

theorem scalarStore_ctype {tok : Tok} (h : tok.isScalar = true) (lv : Level) (span : Span) (q : Parser) :
    (scalarStore tok lv span q).ctype ≠ .object := by
  cases tok <;> first | exact fun e => Ty.noConfusion e | cases h

theorem walk_v_dispatch (st : LoopSt) (q : Parser) (lv : Level) (s : Option Scan) (tok : Tok) (span : Span) (bc oa od : Nat)
    (hq : Shape q) (he : q.err = .none) (hin : InBuf q lv span) (hpt : q.ptype = 1) (hd : od ≤ q.depth)
    (hs : s = some .value ∨ (s = none ∧ q.depth = od))
    (hO : tok = .objBegin → ∃ rs, q.rem = 0x40 :: rs) (hA : tok = .arrBegin → lv.ctype = .array) :
    WalkPost (dispatch st q lv q.lvlIdx s tok span bc none oa od) (walkVC od) (walkVS od) (walkVR od) := by
  generalize hr : dispatch st q lv q.lvlIdx s tok span bc none oa od = r
  have hli := hq.lvlIdx_lt
  cases tok with
  | objBegin =>
    obtain ⟨rs, hrem⟩ := hO rfl
    rcases (caseObjBegin_full he hli hq.hcur hq.hlv hr).1 with ⟨h2, e, _⟩ | ⟨g, _, h2, hsc, _, _, d, _⟩ | ⟨g, h2, _, W⟩
    · exact .ret h2 (Or.inl e)
    · rcases hs with rfl | ⟨rfl, _⟩
      · exact .cont h2 ⟨by omega, Or.inl hsc⟩
      · cases g
    · rcases hs with rfl | ⟨rfl, hdo⟩
      · cases g
      · exact .stop h2 ⟨W.err.trans he, W.depth.trans hdo, fun _ => ⟨rs, (rem_same W.buf W.used).trans hrem⟩⟩
  | objEnd =>
    rcases hs with rfl | ⟨rfl, hdo⟩
    · rcases (caseObjEnd_full he hli hq.hcur (s' := some .value) (by split <;> rfl) hr).1 with
        ⟨h2, e, _⟩ | ⟨_, g, h2, W⟩ | ⟨_, _, g, h1, h2, hsc, _, _, d, _⟩ | ⟨_, _, g, h1, h2, _, _, _, d, _⟩
      · exact .ret h2 (Or.inl e)
      · rcases g with g | ⟨ho, _⟩
        · cases g
        · exact .ret h2 (Or.inr (W.depth.trans ho.symm))
      · have ho : od ≠ q.depth := fun ho => nomatch g ho
        exact .cont h2 ⟨by omega, Or.inl hsc⟩
      · have ho : od ≠ q.depth := fun ho => nomatch g ho
        exact .ret h2 (Or.inr (by omega))
    · rcases (caseObjEnd_full he hli hq.hcur rfl hr).1 with ⟨h2, e, _⟩ | ⟨_, _, h2, W⟩ | ⟨_, g, _⟩ | ⟨_, g, _⟩
      · exact .ret h2 (Or.inl e)
      · exact .ret h2 (Or.inr (W.depth.trans hdo))
      · cases g
      · cases g
  | fieldName =>
    rcases (caseFieldName_full he hli hq.hcur hin rfl hr).1 with ⟨h2, e, _⟩ | ⟨_, _, g, _⟩ | ⟨_, h2, hsc, W⟩
    · exact .ret h2 (Or.inl e)
    · cases g
    · refine .cont h2 ⟨by rw [W.depth]; exact hd, ?_⟩
      rw [hsc, W.depth]
      split
      · rename_i horig
        exact Or.inr ⟨by rcases hs with rfl | ⟨rfl, _⟩ <;> rfl, horig.2.symm⟩
      · exact hs
  | arrBegin =>
    rcases (caseArrBegin_full he hli hq.hcur hr).1 with ⟨h2, e, _⟩ | ⟨g, _, h2, hsc, W⟩ | ⟨g, h2, _, W⟩
    · exact .ret h2 (Or.inl e)
    · rcases hs with rfl | ⟨rfl, _⟩
      · exact .cont h2 ⟨by rw [W.depth]; exact hd, Or.inl hsc⟩
      · cases g
    · rcases hs with rfl | ⟨rfl, hdo⟩
      · cases g
      · refine .stop h2 ⟨W.err.trans he, W.depth.trans hdo, walk_pend_stored W hq ?_⟩
        split <;> (show lv.ctype ≠ .object; rw [hA rfl]; exact fun e => nomatch e)
  | arrEnd =>
    rcases hs with rfl | ⟨rfl, hdo⟩
    · rcases (caseArrEnd_full he hli hq.hcur (s' := some .value) (by split <;> rfl) hr).1 with
        ⟨h2, e, _⟩ | ⟨_, g, _⟩ | ⟨_, _, _, _, h2, hsc, W⟩ | ⟨_, _, _, hp, _⟩
      · exact .ret h2 (Or.inl e)
      · cases g
      · exact .cont h2 ⟨by rw [W.depth]; exact hd, Or.inl hsc⟩
      · rw [hpt] at hp; cases hp
    · rcases (caseArrEnd_full he hli hq.hcur rfl hr).1 with ⟨h2, e, _⟩ | ⟨_, _, h2, W⟩ | ⟨_, g, _⟩ | ⟨_, g, _⟩
      · exact .ret h2 (Or.inl e)
      · exact .ret h2 (Or.inr (W.depth.trans hdo))
      · cases g
      · cases g
  | string | boolean | double | integer | bytes | error =>
    rw [dispatch_scalar (by decide)] at hr
    rcases (caseScalar_full he hli hq.hcur hin.1 hr).1 with ⟨h2, e, _⟩ | ⟨hsc, _, h2, hs', W⟩
    · exact .ret h2 (Or.inl e)
    · rcases hs with rfl | ⟨rfl, hdo⟩
      · exact .cont h2 ⟨by rw [W.depth]; exact hd, Or.inl hs'⟩
      · exact .stop h2 ⟨W.err.trans he, W.depth.trans hdo, walk_pend_stored W hq (scalarStore_ctype hsc _ _ _)⟩

theorem walk_v_iter (st : LoopSt) (oa od : Nat) (hs : Shape st.p) (he : st.p.err = .none) (hpt : st.p.ptype = 1)
    (hJ : walkVC od st.p st.scan) :
    WalkPost (iter st none oa od) (walkVC od) (walkVS od) (walkVR od) := by
  refine walk_iter_post hs he (fun q hq => Or.inl hq) (fun c lv tok hC hob hin => ?_)
  obtain ⟨_, _, _, o4, o5⟩ := objBlock_spec hob
  obtain ⟨_, _, _, a4⟩ := arrBlock_spec lv tok (decide (oa = lv.ad ∧ od = c.p.depth)) st.scan
  have hsc : (arrBlock lv tok (decide (oa = lv.ad ∧ od = c.p.depth)) st.scan).2 = some .value ∨
      ((arrBlock lv tok (decide (oa = lv.ad ∧ od = c.p.depth)) st.scan).2 = none ∧ c.p.depth = od) := by
    rcases walk_arrBlock_scan lv tok (decide (oa = lv.ad ∧ od = c.p.depth)) st.scan with e | ⟨e, _, hb⟩
    · rw [e, hC.depth]; exact hJ.2
    · right
      have hb' : oa = lv.ad ∧ od = c.p.depth := by simpa using hb
      refine ⟨?_, hb'.2.symm⟩
      rw [e]
      rcases hJ.2 with h | ⟨h, _⟩ <;> rw [h] <;> rfl
  refine walk_v_dispatch _ _ _ _ _ _ _ _ _ hC.shape hC.err hin (hC.ptype.trans hpt) (by rw [hC.depth]; exact hJ.1) hsc ?_ ?_
  · intro ht
    have hct : c.tok = .objBegin := by
      rcases o5 with h | ⟨_, h⟩
      · rw [← h, ht]
      · rw [ht] at h; cases h
    obtain ⟨rs, hr⟩ := hC.objB hct
    exact ⟨rs, by rw [rem_same hC.buf (hC.beUsed (by rw [hct]; rfl))]; exact hr⟩
  · intro ht
    have hct : c.tok = .arrBegin := by
      rcases o5 with h | ⟨_, h⟩
      · rw [← h, ht]
      · rw [ht] at h; cases h
    rw [a4, o4, hC.lvlIdx]
    exact hC.ctyA hct

theorem walk_next_post (p : Parser) (hs : Shape p) (he : p.err = .none) (hpt : p.ptype = 1) :
    ((next p).1.err = .none → (next p).1.depth = p.depth) ∧
    ((next p).2 = true → (next p).1.err = .none ∧ walkPend (next p).1) := by
  unfold next
  simp only
  rcases walk_mode_adv p hs he .value none (walkVC p.depth) (walkVS p.depth) (walkVR p.depth) ⟨Nat.le_refl _, Or.inl rfl⟩
      (fun st i1 i2 i3 i4 => walk_v_iter st _ _ i1 i2 (i3.trans hpt) i4) with ⟨a1, a2, a3⟩ | ⟨hc, hR⟩
  · exact ⟨fun _ => a2, fun _ => ⟨a1, a3⟩⟩
  · refine ⟨fun h => ?_, fun h => by rw [hc] at h; cases h⟩
    rcases hR with hR | hR
    · exact absurd h hR
    · exact hR

end Binson
