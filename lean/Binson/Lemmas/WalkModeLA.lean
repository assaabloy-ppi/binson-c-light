/-
  Traversal on ARBITRARY bytes: `binson_parser_leave_array` - whenever it returns true
  (object-rooted parser, array open in the current entry), no error is pending and the depth is
  unchanged: an END-object token at the originating depth is an error while the entry's array
  count has not come back to its original value.
-/
import Binson.Lemmas.WalkRaw
namespace Binson

/-- the originating entry while its arrays are being skipped -/
def walkJL (oa : Nat) (L : Level) : Prop := oa ≤ L.ad ∧ (L.flags = .arr1 ∨ L.flags = .arr2)

/-- `C` (goes on), `S` (stops), `R` (returns) of `WalkPost` for `leave_array`; `oa`, `od`: array count and depth at the call -/
def walkLaC (oa od : Nat) (q : Parser) (s : Option Scan) : Prop :=
  s = some .leaveArr ∧ od ≤ q.depth ∧ walkJL oa (q.getLvl (od - 1))
def walkLaS (od : Nat) (q : Parser) : Prop := q.err = .none ∧ q.depth = od
def walkLaR (q : Parser) : Prop := q.err ≠ .none

theorem walk_la_dispatch (st : LoopSt) (q : Parser) (lv : Level) (tok : Tok) (span : Span) (bc oa od : Nat)
    (hq : Shape q) (he : q.err = .none) (hin : InBuf q lv span) (hpt : q.ptype = 1) (hod : 1 ≤ od) (hoa : 1 ≤ oa) (hd : od ≤ q.depth)
    (hidx : q.lvlIdx = q.depth - 1)
    (hJ1 : q.depth = od → walkJL oa lv) (hJ2 : od < q.depth → walkJL oa (q.getLvl (od - 1)))
    (hfn : tok = .fieldName → od < q.depth) :
    WalkPost (dispatch st q lv q.lvlIdx (some .leaveArr) tok span bc none oa od) (walkLaC oa od) (walkLaS od) walkLaR := by
  generalize hr : dispatch st q lv q.lvlIdx (some .leaveArr) tok span bc none oa od = r
  have hli := hq.lvlIdx_lt
  -- the originating entry after `L` has been written to the current one
  have jl : ∀ L : Level, (q.depth = od → walkJL oa L) → walkJL oa (if od - 1 = q.lvlIdx then L else q.getLvl (od - 1)) := by
    intro L hL
    by_cases hdo : q.depth = od
    · rw [if_pos (by omega)]; exact hL hdo
    · rw [if_neg (by omega)]; exact hJ2 (by omega)
  have below : lv.flags = .expField → od < q.depth := by
    intro hf
    rcases Nat.lt_or_ge od q.depth with h | h
    · exact h
    · rcases (hJ1 (by omega)).2 with h | h <;> rw [hf] at h <;> cases h
  cases tok with
  | objBegin =>
    rcases (caseObjBegin_full he hli hq.hcur hq.hlv hr).1 with ⟨h2, e, _⟩ | ⟨_, _, h2, hs, _, _, d, hl⟩ | ⟨g, _⟩
    · exact .ret h2 e
    · refine .cont h2 ⟨hs, by omega, ?_⟩
      rw [hl, if_neg (by omega)]
      exact jl lv hJ1
    · cases g
  | objEnd =>
    rcases (caseObjEnd_full he hli hq.hcur (s' := some .leaveArr) (by split <;> rfl) hr).1 with
      ⟨h2, e, _⟩ | ⟨_, g, _⟩ | ⟨hf, _, _, h1, h2, hs, _, _, d, hl⟩ | ⟨hf, _, _, h1, _⟩
    · exact .ret h2 e
    · rcases g with g | ⟨_, g⟩ <;> cases g
    · have hlt := below hf
      refine .cont h2 ⟨hs, by omega, ?_⟩
      rw [hl]
      exact jl _ (fun hdo => by omega)
    · have hlt := below hf
      omega
  | fieldName =>
    have hlt := hfn rfl
    rcases (caseFieldName_full he hli hq.hcur hin (s' := some .leaveArr) (by split <;> rfl) hr).1 with ⟨h2, e, _⟩ | ⟨_, _, g, _⟩ | ⟨_, h2, hs, W⟩
    · exact .ret h2 e
    · cases g
    · exact .cont h2 ⟨hs, by rw [W.depth]; exact hd, W.lvl _ ▸ jl _ (fun hdo => by omega)⟩
  | arrBegin =>
    rcases (caseArrBegin_full he hli hq.hcur hr).1 with ⟨h2, e, _⟩ | ⟨_, _, h2, hs, W⟩ | ⟨g, _⟩
    · exact .ret h2 e
    · exact .cont h2 ⟨hs, by rw [W.depth]; exact hd, W.lvl _ ▸ jl _ (fun hdo => ⟨Nat.le_succ_of_le (hJ1 hdo).1, Or.inl rfl⟩)⟩
    · cases g
  | arrEnd =>
    rcases (caseArrEnd_full he hli hq.hcur rfl hr).1 with ⟨h2, e, _⟩ | ⟨_, g, _⟩ | ⟨_, _, _, _, h2, hs, W⟩ | ⟨_, _, _, hp, _⟩
    · exact .ret h2 e
    · cases g
    · by_cases horig : od = q.depth ∧ oa = lv.ad
      · rw [if_pos horig] at h2
        exact .stop h2 ⟨W.err.trans he, W.depth.trans horig.1.symm⟩
      · rw [if_neg horig] at h2 hs
        refine .cont h2 ⟨hs, by rw [W.depth]; exact hd, W.lvl _ ▸ jl _ (fun hdo => ?_)⟩
        have h1 := (hJ1 hdo).1
        have h3 : oa ≠ lv.ad := fun h => horig ⟨hdo.symm, h⟩
        refine ⟨Nat.le_sub_one_of_lt (Nat.lt_of_le_of_ne h1 h3), Or.inl ?_⟩
        show (if lv.ad - 1 = 0 then Flags.expField else Flags.arr1) = _
        rw [if_neg (by omega)]
    · rw [hpt] at hp; cases hp
  | string | boolean | double | integer | bytes | error =>
    rw [dispatch_scalar (by decide)] at hr
    rcases (caseScalar_full he hli hq.hcur hin.1 hr).1 with ⟨h2, e, _⟩ | ⟨_, _, h2, hs, W⟩
    · exact .ret h2 e
    · obtain ⟨_, n2, n3⟩ := scalarStore_fields _ lv span q
      exact .cont h2 ⟨hs, by rw [W.depth]; exact hd, W.lvl _ ▸ jl _ (fun hdo => by unfold walkJL; rw [n2, n3]; exact hJ1 hdo)⟩

theorem walk_la_iter (st : LoopSt) (oa od : Nat) (hs : Shape st.p) (he : st.p.err = .none) (hpt : st.p.ptype = 1)
    (hod : 1 ≤ od) (hoa : 1 ≤ oa) (hJ : walkLaC oa od st.p st.scan) :
    WalkPost (iter st none oa od) (walkLaC oa od) (walkLaS od) walkLaR := by
  refine walk_iter_post hs he (fun q hq => hq) (fun c lv tok hC hob hin => ?_)
  obtain ⟨j1, j2, j3⟩ := hJ
  have hdp : 1 ≤ st.p.depth := by omega
  have hidx0 : st.p.lvlIdx = st.p.depth - 1 := Parser.lvlIdx_of_pos hdp
  have hidx : c.p.lvlIdx = c.p.depth - 1 := by rw [hC.lvlIdx, hC.depth]; exact hidx0
  -- at the originating depth the current entry is the array entry, which the object block hands on as it is
  have horig : c.p.depth = od → walkJL oa lv ∧ tok = c.tok := by
    intro hdo
    rw [hC.depth] at hdo
    have hXJ : walkJL oa (c.p.getLvl c.p.lvlIdx) := by
      unfold walkJL
      rw [hC.lvlIdx, hC.lvlAd, hC.lvlFlags, hidx0, hdo]
      exact j3
    rw [objBlock_arr hXJ.2] at hob
    simp only [Option.some.injEq, Prod.mk.injEq] at hob
    exact ⟨hob.1 ▸ hXJ, hob.2.symm⟩
  rw [j1] at hin ⊢
  rw [walk_arrBlock_scan_ne _ _ _ _ (by decide)]
  refine walk_la_dispatch _ _ _ _ _ _ _ _ hC.shape hC.err hin (hC.ptype.trans hpt) hod hoa (by rw [hC.depth]; exact j2) hidx ?_ ?_ ?_
  · intro hdo
    have hja := (horig hdo).1
    rcases arrBlock_sim lv tok (decide (oa = lv.ad ∧ od = c.p.depth)) (some Scan.leaveArr) with h | ⟨_, h | h⟩ <;> rw [h]
    · exact hja
    · exact ⟨hja.1, Or.inl rfl⟩
    · exact ⟨hja.1, Or.inr rfl⟩
  · intro hlt
    rw [hC.depth] at hlt
    rw [hC.lvlNe _ (by rw [hidx0]; omega)]
    exact j3
  · intro ht
    rcases Nat.lt_or_ge od c.p.depth with h | h
    · exact h
    · exact absurd ((horig (by rw [hC.depth] at h ⊢; omega)).2 ▸ ht) hC.tokOk.2

theorem walk_leaveArray_true (p : Parser) (hs : Shape p) (hpt : p.ptype = 1) (hd : 1 ≤ p.depth)
    (had : (p.getLvl p.lvlIdx).flags.inArray = true → 1 ≤ (p.getLvl p.lvlIdx).ad ∧ NoJunk (p.getLvl p.lvlIdx).flags)
    (h : (leaveArray p).2 = true) :
    p.err = .none ∧ (leaveArray p).1.err = .none ∧ (leaveArray p).1.depth = p.depth := by
  obtain ⟨hin, he, e, hret⟩ := walk_leave_true (by unfold leaveArray; rw [touchLvl_of_lt hs.lvlIdx_lt]) h
  rw [e]
  obtain ⟨had1, hnj⟩ := had hin
  have hidx : p.lvlIdx = p.depth - 1 := Parser.lvlIdx_of_pos hd
  have hJ0 : walkLaC (p.getLvl p.cur).ad p.depth p (some .leaveArr) := by
    refine ⟨rfl, Nat.le_refl _, ?_⟩
    rw [hs.hcur, ← hidx]
    refine ⟨Nat.le_refl _, ?_⟩
    rcases inArray_cases hin with h | h | ⟨o, h⟩
    · exact Or.inl h
    · exact Or.inr h
    · exact absurd h (hnj o true)
  rcases walk_mode_adv p hs he .leaveArr none (walkLaC (p.getLvl p.cur).ad p.depth) (walkLaS p.depth) walkLaR hJ0
    (fun st i1 i2 i3 i4 => walk_la_iter st _ _ i1 i2 (i3.trans hpt) hd (by rw [hs.hcur]; exact had1) i4) with ⟨a1, a2⟩ | ⟨hc, hR⟩
  · exact ⟨he, a1, a2⟩
  · rcases hret with hret | hen
    · rw [hc] at hret; cases hret
    · exact absurd hen hR

end Binson
