/-
  Layer 1: the shape invariant of the parser object and its preservation by the
  elementary state updates the model is made of.
-/
import Binson.Model.Api
namespace Binson

def Level.SpansOk (n : Nat) (l : Level) : Prop :=
  (∀ s, l.name = some s → s.off + s.len ≤ n) ∧ (∀ s, l.val = .span s → s.off + s.len ≤ n)

theorem Level.zero_spansOk (n : Nat) : Level.zero.SpansOk n := by
  constructor <;> intro s h <;> simp [Level.zero] at h

/-- The shape invariant: sizes agree, indices are in range, the cursor is inside the buffer,
    stored spans are inside the buffer (while no error is pending), no out-of-bounds access so far. -/
structure Shape (p : Parser) : Prop where
  hlv : p.levels.size = p.maxDepth
  hmd : 1 ≤ p.maxDepth
  hdp : p.depth ≤ p.maxDepth
  hcur : p.cur = p.lvlIdx
  hus : p.used ≤ p.size
  hbs : p.buf.size = p.size
  hsz : p.size < 2 ^ 63
  hnf : p.fault = false
  hno : p.oof = false
  hsp : p.err = .none → ∀ i, (p.getLvl i).SpansOk p.size

/-! ### the elementary updates in closed form: each changes one field and the `fault` ghost -/

theorem Parser.touchBuf_eq (p : Parser) (o l : Nat) :
    p.touchBuf o l = { p with fault := p.fault || !decide (o + l ≤ p.buf.size) } := by
  unfold Parser.touchBuf
  split <;> simp [*]

theorem Parser.touchLvl_eq (p : Parser) (i : Nat) :
    p.touchLvl i = { p with fault := p.fault || !decide (i < p.levels.size) } := by
  unfold Parser.touchLvl
  split <;> simp [*]

theorem Parser.setLvl_eq (p : Parser) (i : Nat) (l : Level) :
    p.setLvl i l = { p with levels := p.levels.setIfInBounds i l, fault := p.fault || !decide (i < p.levels.size) } := by
  unfold Parser.setLvl
  split
  · simp [*]
  · rename_i h
    simp [h, Array.setIfInBounds]

theorem touchName_eq (p : Parser) (n : Option Span) :
    touchName p n = { p with fault := p.fault || (match n with | some s => !decide (s.off + s.len ≤ p.buf.size) | none => false) } := by
  cases n with
  | none => simp [touchName]
  | some s => exact p.touchBuf_eq s.off s.len

theorem Shape.lvlIdx_lt {p : Parser} (h : Shape p) : p.lvlIdx < p.levels.size := by
  have := h.hlv; have := h.hmd; have := h.hdp
  unfold Parser.lvlIdx; split <;> omega

theorem Shape.cur_lt {p : Parser} (h : Shape p) : p.cur < p.levels.size := by
  rw [h.hcur]; exact h.lvlIdx_lt

@[simp] theorem touchLvl_of_lt {p : Parser} {i : Nat} (h : i < p.levels.size) : p.touchLvl i = p := by
  simp [Parser.touchLvl, h]

@[simp] theorem touchBuf_of_le {p : Parser} {o l : Nat} (h : o + l ≤ p.buf.size) : p.touchBuf o l = p := by
  simp [Parser.touchBuf, h]

theorem setLvl_of_lt {p : Parser} {i : Nat} (l : Level) (h : i < p.levels.size) :
    p.setLvl i l = { p with levels := p.levels.setIfInBounds i l } := by
  simp [Parser.setLvl, h]

theorem getLvl_setLvl {p : Parser} {i : Nat} (l : Level) (h : i < p.levels.size) (j : Nat) :
    (p.setLvl i l).getLvl j = if j = i then l else p.getLvl j := by
  rw [setLvl_of_lt l h]
  unfold Parser.getLvl
  by_cases hj : j = i
  · subst hj; simp [Array.getD_eq_getD_getElem?, h]
  · simp [Array.getD_eq_getD_getElem?, Ne.symm hj, hj]

theorem getLvl_setLvl_self (p : Parser) (i j : Nat) : (p.setLvl i (p.getLvl i)).getLvl j = p.getLvl j := by
  by_cases h : i < p.levels.size
  · rw [getLvl_setLvl _ h]
    split
    · rename_i e; rw [e]
    · rfl
  · unfold Parser.setLvl; rw [if_neg h]; rfl

theorem setLvl_size (p : Parser) (i : Nat) (l : Level) : (p.setLvl i l).size = p.size := by
  rw [Parser.setLvl_eq]

theorem Shape.setLvl {p : Parser} (h : Shape p) {i : Nat} (l : Level) (hi : i < p.levels.size)
    (hl : l.SpansOk p.size) : Shape (p.setLvl i l) := by
  have hg := getLvl_setLvl (p := p) l hi
  rw [setLvl_of_lt l hi] at hg ⊢
  refine ⟨Array.size_setIfInBounds.trans h.hlv, h.hmd, h.hdp, h.hcur, h.hus, h.hbs, h.hsz, h.hnf, h.hno, fun he j => ?_⟩
  rw [hg]
  split
  · exact hl
  · exact h.hsp he j

theorem Shape.withUsed {p : Parser} (h : Shape p) (u : Nat) (hu : u ≤ p.size) : Shape { p with used := u } :=
  ⟨h.hlv, h.hmd, h.hdp, h.hcur, hu, h.hbs, h.hsz, h.hnf, h.hno, h.hsp⟩

theorem Shape.withErr {p : Parser} (h : Shape p) (e : Err) (he : e ≠ .none) : Shape { p with err := e } :=
  ⟨h.hlv, h.hmd, h.hdp, h.hcur, h.hus, h.hbs, h.hsz, h.hnf, h.hno, fun h' => absurd h' he⟩

/-- `_check_boundary` without wrap-around -/
theorem checkBoundary_iff (a b max : Nat) (ha : a < 2 ^ 63) (hb : b < 2 ^ 63) :
    checkBoundary a b max = true ↔ a + b ≤ max := by
  unfold checkBoundary two64
  have : (a + b) % 18446744073709551616 = a + b := Nat.mod_eq_of_lt (by omega)
  simp only [this]
  by_cases h : a + b > max
  · simp [h]
  · simp [h]
    omega

theorem consume_ok {p : Parser} (h : Shape p) (n : Nat) (peek : Bool) (hn : n < 2 ^ 63) (hfit : p.used + n ≤ p.size) :
    consume p n peek = (true, ⟨p.used, n⟩, if peek then p else { p with used := p.used + n }) := by
  have hb : checkBoundary p.used n p.size = true :=
    (checkBoundary_iff _ _ _ (Nat.lt_of_le_of_lt h.hus h.hsz) hn).mpr hfit
  simp [consume, hb]

theorem consume_fail {p : Parser} (h : Shape p) (n : Nat) (peek : Bool) (hn : n < 2 ^ 63) (hfit : ¬ p.used + n ≤ p.size) :
    consume p n peek = (false, ⟨0, 0⟩, { p with err := .range }) := by
  have hb : checkBoundary p.used n p.size = false := by
    have := (checkBoundary_iff p.used n p.size (Nat.lt_of_le_of_lt h.hus h.hsz) hn)
    cases hc : checkBoundary p.used n p.size
    · rfl
    · exact absurd (this.mp hc) hfit
  simp [consume, hb]

end Binson
