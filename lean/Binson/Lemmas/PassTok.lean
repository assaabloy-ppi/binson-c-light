/-
  Layer 3: closed forms of one loop iteration, one per branch of the token switch: given
  the bytes at the cursor, what the two flag blocks make of the level, and the guards on the scan
  word, the iteration's outcome and the state it leaves. The versions below the originating level
  (`Deep`) are instances.
-/
import Binson.Lemmas.PassDefs
import Binson.Lemmas.Tokens
namespace Binson

theorem Deep.notOrig {st : LoopSt} {oa od : Nat} (h : Deep st oa od) :
    ¬ (oa = (st.p.getLvl st.p.lvlIdx).ad ∧ od = st.p.depth) := by
  rcases h.deeper with h1 | ⟨h1, h2⟩ <;> omega

theorem objBlock_val_obj {lv : Level} {tok : Tok} (hf : lv.flags = .expValue) (hv : tok.isValue = true) :
    objBlock lv tok = some ({ lv with flags := .expField }, tok) := by
  unfold objBlock
  simp [hf, Flags.inObject, hv]

theorem objBlock_arr {lv : Level} {tok : Tok} (hf : lv.flags = .arr1 ∨ lv.flags = .arr2) :
    objBlock lv tok = some (lv, tok) := by
  unfold objBlock
  rcases hf with hf | hf <;> simp [hf, Flags.inObject]

theorem Flags.inArray_of_arr {f : Flags} (h : f = .arr1 ∨ f = .arr2) : f.inArray = true := by
  rcases h with h | h <;> rw [h] <;> rfl

theorem arrBlock_notOrig (lv : Level) (tok : Tok) (s : Option Scan) : arrBlock lv tok false s = (lv, s) := by
  unfold arrBlock; simp

theorem arrBlock_notArr {lv : Level} (tok : Tok) (b : Bool) (s : Option Scan) (h : lv.flags.inArray = false) :
    arrBlock lv tok b s = (lv, s) := by
  unfold arrBlock; simp [h]

/-- the level a value token is stored into: in an object the field is complete -/
def valLevel (l : Level) : Level := { l with flags := afterFlags l false }

theorem valLevel_obj {l : Level} (hf : l.flags = .expValue) : valLevel l = { l with flags := .expField } := by
  unfold valLevel afterFlags; rw [if_pos hf]

theorem valLevel_arr {l : Level} (hf : l.flags = .arr1 ∨ l.flags = .arr2) : valLevel l = l := by
  unfold valLevel afterFlags
  rw [if_neg (by rcases hf with h | h <;> rw [h] <;> exact Flags.noConfusion)]
  rfl

/-- a value token below the originating level, `ct` being the type the classification stage has
    written into the level: the object block completes the field, the array block does nothing -/
theorem blocks_value {st : LoopSt} {oa od : Nat} (hD : Deep st oa od) (hctx : ValCtx (st.p.getLvl st.p.lvlIdx)) {tok : Tok}
    (hv : tok.isValue = true) (ct : Ty) :
    objBlock { st.p.getLvl st.p.lvlIdx with ctype := ct } tok = some (valLevel { st.p.getLvl st.p.lvlIdx with ctype := ct }, tok) ∧
    arrBlock (valLevel { st.p.getLvl st.p.lvlIdx with ctype := ct }) tok
      (decide (oa = (valLevel { st.p.getLvl st.p.lvlIdx with ctype := ct }).ad ∧ od = st.p.depth)) st.scan =
      (valLevel { st.p.getLvl st.p.lvlIdx with ctype := ct }, st.scan) := by
  rcases hctx with ⟨hf, _⟩ | ⟨hf, _⟩
  · rw [valLevel_obj (l := { st.p.getLvl st.p.lvlIdx with ctype := ct }) hf]
    exact ⟨objBlock_val_obj hf hv, arrBlock_notArr _ _ _ rfl⟩
  · rw [valLevel_arr (l := { st.p.getLvl st.p.lvlIdx with ctype := ct }) hf]
    exact ⟨objBlock_arr hf, (congrArg (arrBlock _ tok · st.scan) (decide_eq_false hD.notOrig)).trans (arrBlock_notOrig _ _ _)⟩

theorem objBlock_fieldName {lv : Level} (hf : lv.flags = .expField) :
    objBlock lv .string = some (lv, .fieldName) := by
  unfold objBlock
  simp [hf, Flags.inObject, Tok.isValue]

theorem objBlock_end {lv : Level} {tok : Tok} (hv : tok.isValue = false) (hn : tok ≠ .string) :
    objBlock lv tok = some (lv, tok) := by
  unfold objBlock
  by_cases h : lv.flags.inObject = true
  · simp [h, hv, hn]
  · simp [h]

theorem arrBlock_noBegin {lv : Level} {tok : Tok} (b : Bool) (s : Option Scan) (ht : tok ≠ .objBegin ∧ tok ≠ .arrBegin) :
    arrBlock lv tok b s = (lv, if lv.flags.inArray = true ∧ b = true then clear s .value else s) := by
  unfold arrBlock
  split
  · rw [if_neg (fun h => h.elim ht.1 ht.2)]
  · rfl

theorem Cont.proceed_eq {s : Option Scan} (h : Cont s) : proceed s false = .cont := by
  unfold proceed; rw [h.has_objEnd]; rfl

/-- `}` is consumed at the originating level unless the scan word is VALUE alone -/
theorem objEnd_consumed {s : Option Scan} {od d : Nat} (hnv : od = d → s ≠ some .value) :
    ¬ (od = d ∧ has (if od = d then clear s .leaveObj else s) [.value] = true) := by
  intro ⟨h1, h2⟩
  rw [if_pos h1] at h2
  refine hnv h1 ?_
  cases s with
  | none => cases h2
  | some x => cases x <;> first | rfl | cases h2

theorem levels_getD_set {a : Array Level} {i : Nat} (l : Level) (h : i < a.size) (j : Nat) :
    (a.setIfInBounds i l).getD j Level.zero = if j = i then l else a.getD j Level.zero := by
  by_cases hj : j = i
  · subst hj; simp [Array.getD_eq_getD_getElem?, h]
  · simp [Array.getD_eq_getD_getElem?, Ne.symm hj, hj]

theorem levels_set_self (a : Array Level) (i : Nat) : a.setIfInBounds i (a.getD i Level.zero) = a := by
  apply Array.ext_getElem?
  intro j
  rw [Array.getElem?_setIfInBounds]
  split
  · rename_i h; subst h
    split
    · rename_i h; simp [h]
    · rename_i h; simp [h]
  · rfl

theorem rem_of_frame {p q : Parser} (hb : q.buf = p.buf) (hu : q.used = p.used + n) {bs rest : Bytes} (hs : Shape p)
    (h : p.rem = bs ++ rest) (hn : bs.length = n) : q.rem = rest := by
  unfold Parser.rem at *
  rw [hb, hu]
  have := drop_append_len (p := p) (off := p.used) (by rw [hs.hbs]; exact hs.hus) h
  rw [← hn]; exact this.2

theorem rem_step {p q : Parser} {b : UInt8} {rest : Bytes} (hs : Shape p) (h : p.rem = b :: rest)
    (fr : p.Frame q) (hu : q.used = p.used + 1) : q.rem = rest :=
  rem_of_frame (bs := [b]) fr.2.1 hu hs (by simpa using h) rfl

theorem rem_last_iff {p : Parser} {b : UInt8} {rest : Bytes} (hs : Shape p) (h : p.rem = b :: rest) :
    p.used + 1 = p.size ↔ rest = [] := by
  have hl := congrArg List.length h
  unfold Parser.rem at hl
  rw [List.length_drop, Array.length_toList, hs.hbs, List.length_cons] at hl
  constructor
  · intro hu; exact List.eq_nil_of_length_eq_zero (by omega)
  · intro hr; rw [hr] at hl; simp at hl; have := hs.hus; omega

/-- what one iteration did: the error code, the bytes consumed, the scan word, the depth, the levels
    and the callback log it leaves -/
structure StepRes (st st' : LoopSt) (err' : Err) (du : Nat) (scan' : Option Scan) (dep' : Nat) (lv : Nat → Level)
    (ev' : List Event) : Prop where
  shape : Shape st'.p
  err : st'.p.err = err'
  scan : st'.scan = scan'
  used : st'.p.used = st.p.used + du
  depth : st'.p.depth = dep'
  frame : st.p.Frame st'.p
  lvl : ∀ i, st'.p.getLvl i = lv i
  ev : st'.ev = ev'

theorem iter_of_blocks {st : LoopSt} {sn : Option (List UInt8)} {oa od : Nat} {c : Cls} {lv1 lv2 : Level} {tok : Tok}
    {scan2 : Option Scan} (hcl : classify st.p st.bc = c) (hne : c.tok ≠ .error)
    (hob : objBlock (c.p.getLvl c.p.lvlIdx) c.tok = some (lv1, tok))
    (hab : arrBlock lv1 tok (decide (oa = lv1.ad ∧ od = c.p.depth)) st.scan = (lv2, scan2)) :
    iter st sn oa od = dispatch { st with bc := c.bc } c.p lv2 c.p.lvlIdx scan2 tok c.span c.bc sn oa od := by
  rw [iter_eq, hcl]
  dsimp only
  rw [if_neg hne, hob]
  dsimp only
  rw [hab]

theorem ite_err (c : Prop) [Decidable c] (pt d md sz u : Nat) (bf : Array UInt8) (e e2 : Err) (L : Array Level) (cu : Nat) (fl oo : Bool) :
    (if c then Parser.mk pt d md sz u bf e2 L cu fl oo else Parser.mk pt d md sz u bf e L cu fl oo) =
      Parser.mk pt d md sz u bf (if c then e2 else e) L cu fl oo := by
  split <;> rfl

/-- the root's END token: a FORMAT error is latched iff bytes remain -/
theorem err_of_last {p : Parser} {b : UInt8} {rest : Bytes} (hs : Shape p) (h : p.rem = b :: rest) :
    (if p.used + 1 ≠ p.size then Err.format else Err.none) = if rest = [] then Err.none else Err.format := by
  have hlast := rem_last_iff hs h
  by_cases hr : rest = []
  · rw [if_pos hr, if_neg (fun h => h (hlast.mpr hr))]
  · rw [if_neg hr, if_pos (fun h => hr (hlast.mp h))]

/-- the scan word after a consumed `]`: at the originating level the VALUE and LEAVE_ARRAY bits are cleared -/
theorem arrEnd_scan (s : Option Scan) (a b : Prop) [Decidable a] [Decidable b] :
    (if b ∧ a then clear (if a ∧ b then clear s .value else s) .leaveArr else if a ∧ b then clear s .value else s) =
      if a ∧ b then clear (clear s .value) .leaveArr else s := by
  by_cases h : a ∧ b
  · simp only [h, and_self, if_true]
  · have h' : ¬ (b ∧ a) := fun x => h ⟨x.2, x.1⟩
    simp only [h, h', if_false]

/-- the level in front of a BEGIN token that the scan word does not ask to enter: it expects a value again -/
def pendLevel (l : Level) : Level := if l.flags = .expField then { l with flags := .expValue } else l

theorem scalarStore_fields (tok : Tok) (lv : Level) (span : Span) (q : Parser) :
    (scalarStore tok lv span q).name = lv.name ∧ (scalarStore tok lv span q).flags = lv.flags ∧
    (scalarStore tok lv span q).ad = lv.ad := by
  cases tok <;> exact ⟨rfl, rfl, rfl⟩

theorem scalarStore_buf {p q : Parser} (h : q.buf = p.buf) (tok : Tok) (lv : Level) (span : Span) :
    scalarStore tok lv span q = scalarStore tok lv span p := by
  unfold scalarStore
  cases tok <;> simp only [parseIntVal_congr h, leNat_congr h, byte_congr h]

theorem dispatch_scalar_store {st : LoopSt} {p : Parser} {lv : Level} {li : Nat} {scan : Option Scan} {tok : Tok} {span : Span} {bc : Nat}
    {sn : Option (List UInt8)} {oa od : Nat} (hsc : tok.isScalar = true) (hbuf : span.off + span.len ≤ p.buf.size)
    (hint : tok = .integer → intBoundsOk (parseIntVal p span) span.len = true) :
    dispatch st p lv li scan tok span bc sn oa od = finish st tok p (scalarStore tok lv span p) li scan false := by
  cases tok with
  | string | bytes | boolean => rfl
  | double =>
    unfold dispatch caseScalar scalarStore
    simp only [touchBuf_of_le hbuf]
  | integer =>
    unfold dispatch caseScalar scalarStore
    simp only [touchBuf_of_le hbuf, hint rfl, Bool.not_true, Bool.false_eq_true, if_false]
  | objBegin | objEnd | arrBegin | arrEnd | error | fieldName => cases hsc

section
variable {st : LoopSt} {sn : Option (List UInt8)} {oa od : Nat} (hsh : Shape st.p) (he : st.p.err = .none)
include hsh he

/-- an iteration in closed form, the state it leaves written out field by field (so that nothing has to
    be projected out of it again): the shape invariant and the frame come with it -/
theorem StepRes.ofIter {o : Out}
    {pt d' md sz u' : Nat} {bf : Array UInt8} {e' : Err} {L' : Array Level} {c' : Nat} {flt oof : Bool} {sc' : Option Scan} {bc' : Nat}
    {ev' : List Event} (hit : iter st sn oa od = (⟨⟨pt, d', md, sz, u', bf, e', L', c', flt, oof⟩, sc', bc', ev'⟩, o))
    {e'' : Err} {du dep' : Nat} {lv : Nat → Level} {ev'' : List Event}
    (herr : e' = e'') (hused : u' = st.p.used + du) (hdepth : d' = dep') (hlvl : ∀ i, L'.getD i Level.zero = lv i) (hev : ev' = ev'') :
    StepRes st ⟨⟨pt, d', md, sz, u', bf, e', L', c', flt, oof⟩, sc', bc', ev'⟩ e'' du sc' dep' lv ev'' := by
  have sp := iter_spec st sn oa od hsh he
  rw [hit] at sp
  exact ⟨sp.shape, herr, rfl, hused, hdepth, sp.frame, hlvl, hev⟩

/-- an iteration that writes one level, the current one, and hands it to the callback -/
theorem StepRes.ofWrite {o : Out}
    {pt d' md sz u' : Nat} {bf : Array UInt8} {e' : Err} {L' : Array Level} {c' : Nat} {flt oof : Bool} {sc' : Option Scan} {bc' : Nat}
    {ev' : List Event} (hit : iter st sn oa od = (⟨⟨pt, d', md, sz, u', bf, e', L', c', flt, oof⟩, sc', bc', ev'⟩, o))
    {NL : Level} {tok : Tok} {e'' : Err} {du : Nat}
    (hlv : L' = st.p.levels.setIfInBounds st.p.lvlIdx NL) (hcur : c' = st.p.cur) (hev : ev' = (tok, L'.getD c' Level.zero) :: st.ev)
    (herr : e' = e'') (hused : u' = st.p.used + du) (hdepth : d' = st.p.depth) :
    StepRes st ⟨⟨pt, d', md, sz, u', bf, e', L', c', flt, oof⟩, sc', bc', ev'⟩ e'' du sc' st.p.depth
      (fun i => if i = st.p.lvlIdx then NL else st.p.getLvl i) ((tok, NL) :: st.ev) := by
  have hL : ∀ i, L'.getD i Level.zero = if i = st.p.lvlIdx then NL else st.p.getLvl i := fun i => by
    rw [hlv]; exact levels_getD_set NL hsh.lvlIdx_lt i
  exact .ofIter hsh he hit herr hused hdepth hL (by rw [hev, hcur, hsh.hcur, hL, if_pos rfl])

theorem iter_objEnd_eq (rest : Bytes) (hrem : st.p.rem = 0x41 :: rest) (hf : (st.p.getLvl st.p.lvlIdx).flags = .expField) :
    iter st sn oa od = caseObjEnd { st with bc := st.bc } st.p (st.p.getLvl st.p.lvlIdx) st.p.lvlIdx st.scan od :=
  iter_of_blocks (classify_objEnd hsh he st.bc rest hrem) (show Tok.objEnd ≠ .error by decide)
    (objBlock_end rfl (show Tok.objEnd ≠ .string by decide)) (arrBlock_notArr _ _ _ (by rw [hf]; rfl))

/-- `}` of a nested object: consumed, the state entry is wiped and released; at the originating
    level the LEAVE_OBJECT bit is cleared -/
theorem iter_objEnd_pop (rest : Bytes) (hrem : st.p.rem = 0x41 :: rest)
    (hf : (st.p.getLvl st.p.lvlIdx).flags = .expField) (hd2 : 2 ≤ st.p.depth)
    (hhas : has st.scan [.verify, .leaveObj, .value, .leaveArr] = true)
    (hnv : od = st.p.depth → st.scan ≠ some .value) :
    ∃ st', iter st sn oa od = (st', proceed (if od = st.p.depth then clear st.scan .leaveObj else st.scan) false) ∧
      st'.p.rem = rest ∧
      StepRes st st' .none 1 (if od = st.p.depth then clear st.scan .leaveObj else st.scan) (st.p.depth - 1)
        (fun i => if i = st.p.depth - 1 then Level.zero else st.p.getLvl i)
        ((.objEnd, st.p.getLvl (st.p.depth - 2)) :: st.ev) := by
  have hcur : st.p.cur = st.p.depth - 1 := hsh.hcur.trans (Parser.lvlIdx_of_pos (Nat.le_of_succ_le hd2))
  have hg := objEnd_consumed hnv
  have hd : st.p.depth > 1 := hd2
  have hit := iter_objEnd_eq (sn := sn) (oa := oa) (od := od) hsh he rest hrem hf
  unfold caseObjEnd at hit
  rw [if_neg (by rw [hf]; exact fun h => h rfl), if_pos hhas] at hit
  simp only [↓reduceIte, hg, hd, Parser.setLvl_eq, Parser.touchLvl_eq, finish_eq, he, ne_eq, not_true_eq_false,
    Parser.getLvl, levels_set_self] at hit
  have hL : ∀ i, (st.p.levels.setIfInBounds st.p.cur Level.zero).getD i Level.zero =
      if i = st.p.depth - 1 then Level.zero else st.p.getLvl i := fun i => by
    rw [levels_getD_set _ hsh.cur_lt, hcur]; rfl
  exact ⟨_, hit, (rem_cons hsh hrem).2.2, .ofIter hsh he hit rfl rfl rfl hL
    (congrArg (fun l => (Tok.objEnd, l) :: st.ev)
      ((hL _).trans (if_neg (Nat.ne_of_lt (Nat.sub_lt_sub_left hd2 (Nat.lt_succ_self 1))))))⟩

/-- root `}`: consumed, depth 0, the call returns; FORMAT iff bytes remain -/
theorem iter_objEnd_root (rest : Bytes) (hrem : st.p.rem = 0x41 :: rest)
    (hf : (st.p.getLvl st.p.lvlIdx).flags = .expField) (hd : st.p.depth = 1)
    (hhas : has st.scan [.verify, .leaveObj, .value, .leaveArr] = true)
    (hnv : od = st.p.depth → st.scan ≠ some .value) :
    ∃ st', iter st sn oa od = (st', .ret false) ∧ st'.p.rem = rest ∧
      StepRes st st' (if rest = [] then .none else .format) 1 (if od = st.p.depth then clear st.scan .leaveObj else st.scan) 0
        (fun i => if i = 0 then Level.zero else st.p.getLvl i) ((.objEnd, Level.zero) :: st.ev) ∧
      (rest = [] → st'.p.used = st'.p.size) := by
  have hcur : st.p.cur = 0 := hsh.hcur.trans (by rw [Parser.lvlIdx_of_pos (Nat.le_of_eq hd.symm), hd])
  have hg := objEnd_consumed hnv
  have hgt : ¬ st.p.depth > 1 := by rw [hd]; exact Nat.lt_irrefl 1
  have hit := iter_objEnd_eq (sn := sn) (oa := oa) (od := od) hsh he rest hrem hf
  unfold caseObjEnd at hit
  rw [if_neg (by rw [hf]; exact fun h => h rfl), if_pos hhas] at hit
  simp only [↓reduceIte, hg, hgt, eq_true hd, Parser.setLvl_eq, Parser.touchLvl_eq, he, Parser.getLvl, levels_set_self, hcur, ite_err] at hit
  have hL : ∀ i, (st.p.levels.setIfInBounds 0 Level.zero).getD i Level.zero = if i = 0 then Level.zero else st.p.getLvl i :=
    fun i => levels_getD_set _ (by rw [← hcur]; exact hsh.cur_lt) i
  exact ⟨_, hit, (rem_cons hsh hrem).2.2,
    .ofIter hsh he hit (err_of_last hsh hrem) rfl rfl hL (congrArg (fun l => (Tok.objEnd, l) :: st.ev) (hL 0)),
    (rem_last_iff hsh hrem).mpr⟩

/-- `}` at the originating level while looking for the next field: not consumed, the call returns -/
theorem iter_objEnd_stay (rest : Bytes) (hrem : st.p.rem = 0x41 :: rest)
    (hf : (st.p.getLvl st.p.lvlIdx).flags = .expField) (hsc : st.scan = some .value) (hod : od = st.p.depth) :
    ∃ st', iter st sn oa od = (st', .ret false) ∧
      StepRes st st' .none 0 (some .value) st.p.depth (fun i => st.p.getLvl i) st.ev := by
  have hc : clear (some Scan.value) .leaveObj = some .value := rfl
  have hh : has (some Scan.value) [.value] = true := rfl
  have hit := iter_objEnd_eq (sn := sn) (oa := oa) (od := od) hsh he rest hrem hf
  rw [hsc] at hit
  unfold caseObjEnd at hit
  rw [if_neg (by rw [hf]; exact fun h => h rfl), if_pos (by rfl)] at hit
  simp only [↓reduceIte, eq_true hod, hc, hh, and_self, Parser.setLvl_eq, Parser.getLvl, levels_set_self] at hit
  exact ⟨_, hit, .ofIter hsh he hit he rfl rfl (fun _ => rfl) rfl⟩

theorem iter_arrEnd_eq (rest : Bytes) (hrem : st.p.rem = 0x43 :: rest) (hina : (st.p.getLvl st.p.lvlIdx).flags.inArray = true) :
    iter st sn oa od = caseArrEnd { st with bc := st.bc } st.p (st.p.getLvl st.p.lvlIdx) st.p.lvlIdx
      (if oa = (st.p.getLvl st.p.lvlIdx).ad ∧ od = st.p.depth then clear st.scan .value else st.scan) oa od := by
  refine iter_of_blocks (classify_arrEnd hsh he st.bc rest hrem) (show Tok.arrEnd ≠ .error by decide)
    (objBlock_end rfl (show Tok.arrEnd ≠ .string by decide)) ?_
  rw [arrBlock_noBegin _ _ (show Tok.arrEnd ≠ .objBegin ∧ Tok.arrEnd ≠ .arrBegin by decide), hina]
  simp only [true_and, decide_eq_true_eq]

/-- `]` that does not close the root array: consumed, one array level less; at the originating level
    the VALUE and LEAVE_ARRAY bits are cleared -/
theorem iter_arrEnd_step (rest : Bytes) (hrem : st.p.rem = 0x43 :: rest)
    (hf : (st.p.getLvl st.p.lvlIdx).flags = .arr1 ∨ (st.p.getLvl st.p.lvlIdx).flags = .arr2)
    (had : 1 ≤ (st.p.getLvl st.p.lvlIdx).ad)
    (hnr : ¬ ((st.p.getLvl st.p.lvlIdx).ad = 1 ∧ st.p.ptype = 2 ∧ st.p.depth = 1))
    (hhas : has (if oa = (st.p.getLvl st.p.lvlIdx).ad ∧ od = st.p.depth then clear st.scan .value else st.scan)
      [.verify, .value, .leaveArr, .leaveObj] = true) :
    ∃ st', iter st sn oa od = (st', proceed (if oa = (st.p.getLvl st.p.lvlIdx).ad ∧ od = st.p.depth
        then clear (clear st.scan .value) .leaveArr else st.scan) false) ∧
      st'.p.rem = rest ∧
      StepRes st st' .none 1 (if oa = (st.p.getLvl st.p.lvlIdx).ad ∧ od = st.p.depth
          then clear (clear st.scan .value) .leaveArr else st.scan) st.p.depth
        (fun i => if i = st.p.lvlIdx then arrEndLevel (st.p.getLvl st.p.lvlIdx) else st.p.getLvl i)
        ((.arrEnd, arrEndLevel (st.p.getLvl st.p.lvlIdx)) :: st.ev) := by
  have hina := Flags.inArray_of_arr hf
  have had0 : ¬ (st.p.getLvl st.p.lvlIdx).ad = 0 := Nat.ne_of_gt had
  have hit := iter_arrEnd_eq (sn := sn) (oa := oa) (od := od) hsh he rest hrem hina
  unfold caseArrEnd at hit
  rw [if_neg (by rw [hina]; decide), if_pos hhas] at hit
  -- the two outcomes that are not the root's differ in the flags only
  have key : iter st sn oa od = finish { st with bc := st.bc } .arrEnd { st.p with used := st.p.used + 1 }
      (arrEndLevel (st.p.getLvl st.p.lvlIdx)) st.p.lvlIdx
      (if oa = (st.p.getLvl st.p.lvlIdx).ad ∧ od = st.p.depth then clear (clear st.scan .value) .leaveArr else st.scan) false := by
    unfold arrEndLevel
    by_cases h0 : (st.p.getLvl st.p.lvlIdx).ad - 1 = 0
    · have hroot : ¬ (st.p.ptype = 2 ∧ st.p.depth = 1) := fun h => hnr ⟨Nat.le_antisymm (Nat.le_of_sub_eq_zero h0) had, h⟩
      simp only [↓reduceIte, arrEnd_scan, had0, eq_true h0, hroot] at hit
      rw [if_pos h0]; exact hit
    · simp only [↓reduceIte, arrEnd_scan, had0, eq_false h0] at hit
      rw [if_neg h0]; exact hit
  rw [finish_eq, if_neg (fun h => h he), Parser.setLvl_eq] at key
  exact ⟨_, key, (rem_cons hsh hrem).2.2, .ofWrite hsh he key rfl rfl rfl he rfl rfl⟩

/-- `]` of the root array: consumed, the call returns; FORMAT iff bytes remain -/
theorem iter_arrEnd_root (rest : Bytes) (hrem : st.p.rem = 0x43 :: rest)
    (hf : (st.p.getLvl st.p.lvlIdx).flags = .arr1 ∨ (st.p.getLvl st.p.lvlIdx).flags = .arr2)
    (had : (st.p.getLvl st.p.lvlIdx).ad = 1) (hpt : st.p.ptype = 2) (hd : st.p.depth = 1)
    (hhas : has (if oa = (st.p.getLvl st.p.lvlIdx).ad ∧ od = st.p.depth then clear st.scan .value else st.scan)
      [.verify, .value, .leaveArr, .leaveObj] = true) :
    ∃ st', iter st sn oa od = (st', .ret false) ∧ st'.p.rem = rest ∧
      StepRes st st' (if rest = [] then .none else .format) 1
        (if oa = (st.p.getLvl st.p.lvlIdx).ad ∧ od = st.p.depth then clear (clear st.scan .value) .leaveArr else st.scan) st.p.depth
        (fun i => if i = st.p.lvlIdx then { st.p.getLvl st.p.lvlIdx with ad := 0, flags := .expField } else st.p.getLvl i)
        ((.arrEnd, { st.p.getLvl st.p.lvlIdx with ad := 0, flags := .expField }) :: st.ev) ∧
      (rest = [] → st'.p.used = st'.p.size) := by
  have hina := Flags.inArray_of_arr hf
  have had0 : ¬ (st.p.getLvl st.p.lvlIdx).ad = 0 := by rw [had]; decide
  have h0 : (st.p.getLvl st.p.lvlIdx).ad - 1 = 0 := by rw [had]
  have hit := iter_arrEnd_eq (sn := sn) (oa := oa) (od := od) hsh he rest hrem hina
  unfold caseArrEnd at hit
  rw [if_neg (by rw [hina]; decide), if_pos hhas] at hit
  simp only [↓reduceIte, arrEnd_scan, had0, h0, eq_true hpt, eq_true hd, and_self, Parser.setLvl_eq, he, ite_err] at hit
  exact ⟨_, hit, (rem_cons hsh hrem).2.2, .ofWrite hsh he hit rfl rfl rfl (err_of_last hsh hrem) rfl rfl, (rem_last_iff hsh hrem).mpr⟩

/-- `]` at the originating level while looking for the next element: not consumed, the call returns -/
theorem iter_arrEnd_stay (rest : Bytes) (hrem : st.p.rem = 0x43 :: rest)
    (hf : (st.p.getLvl st.p.lvlIdx).flags = .arr1 ∨ (st.p.getLvl st.p.lvlIdx).flags = .arr2)
    (hsc : st.scan = some .value) (hoa : oa = (st.p.getLvl st.p.lvlIdx).ad) (hod : od = st.p.depth) :
    ∃ st', iter st sn oa od = (st', .ret false) ∧ StepRes st st' .none 0 none st.p.depth (fun i => st.p.getLvl i) st.ev := by
  have hina := Flags.inArray_of_arr hf
  have hit := iter_arrEnd_eq (sn := sn) (oa := oa) (od := od) hsh he rest hrem hina
  rw [if_pos ⟨hoa, hod⟩, hsc] at hit
  unfold caseArrEnd at hit
  rw [if_neg (by rw [hina]; decide), if_neg (by decide)] at hit
  simp only [Parser.setLvl_eq, Parser.getLvl, levels_set_self] at hit
  exact ⟨_, hit, .ofIter hsh he hit he rfl rfl (fun _ => rfl) rfl⟩

omit he in
/-- a BEGIN token: the stages before the switch have set the level's type and run the two blocks -/
theorem iter_begin_eq {tok : Tok} {ct : Ty}
    (hcl : classify st.p st.bc = ⟨tok, ⟨st.p.used, 1⟩, st.bc, st.p.setLvl st.p.lvlIdx { st.p.getLvl st.p.lvlIdx with ctype := ct }⟩)
    (hne : tok ≠ .error) {lv1 lv2 : Level} {scan2 : Option Scan}
    (hob : objBlock { st.p.getLvl st.p.lvlIdx with ctype := ct } tok = some (lv1, tok))
    (hab : arrBlock lv1 tok (decide (oa = lv1.ad ∧ od = st.p.depth)) st.scan = (lv2, scan2)) :
    iter st sn oa od = dispatch { st with bc := st.bc }
      (st.p.setLvl st.p.lvlIdx { st.p.getLvl st.p.lvlIdx with ctype := ct }) lv2 st.p.lvlIdx scan2 tok ⟨st.p.used, 1⟩ st.bc sn oa od := by
  have hq : (st.p.setLvl st.p.lvlIdx { st.p.getLvl st.p.lvlIdx with ctype := ct }).lvlIdx = st.p.lvlIdx := by
    rw [Parser.setLvl_eq]; rfl
  have h := iter_of_blocks (sn := sn) (oa := oa) (od := od) (lv1 := lv1) (lv2 := lv2) (tok := tok) (scan2 := scan2) hcl hne
    (by show objBlock (Parser.getLvl _ (Parser.lvlIdx _)) _ = _; rw [hq, getLvl_setLvl _ hsh.lvlIdx_lt, if_pos rfl]; exact hob)
    (by show arrBlock _ _ (decide (_ ∧ od = (Parser.setLvl _ _ _).depth)) _ = _; rw [Parser.setLvl_eq]; exact hab)
  rw [h]
  show dispatch _ _ _ (Parser.lvlIdx _) _ _ _ _ _ _ _ = _
  rw [hq]

/-- `{`, entered: consumed, a fresh state entry (index `depth`) is in use and expects a field; the
    ENTER_OBJECT bit is cleared -/
theorem iter_objBegin_entered (rest : Bytes) (hrem : st.p.rem = 0x40 :: rest) (lv1 lv2 : Level) (scan2 : Option Scan)
    (hob : objBlock { st.p.getLvl st.p.lvlIdx with ctype := .object } .objBegin = some (lv1, .objBegin))
    (hab : arrBlock lv1 .objBegin (decide (oa = lv1.ad ∧ od = st.p.depth)) st.scan = (lv2, scan2))
    (hhas : has scan2 [.verify, .enterObj, .value, .leaveArr, .leaveObj] = true)
    (hc : st.p.depth < 255 ∧ st.p.depth < st.p.maxDepth) :
    ∃ st', iter st sn oa od = (st', proceed (clear scan2 .enterObj) false) ∧ st'.p.rem = rest ∧
      StepRes st st' .none 1 (clear scan2 .enterObj) (st.p.depth + 1)
        (fun i => if i = st.p.depth then { (if st.p.depth = st.p.lvlIdx then lv2 else st.p.getLvl st.p.depth) with flags := .expField }
          else if i = st.p.lvlIdx then lv2 else st.p.getLvl i)
        ((.objBegin, { (if st.p.depth = st.p.lvlIdx then lv2 else st.p.getLvl st.p.depth) with flags := .expField }) :: st.ev) := by
  have hli := hsh.lvlIdx_lt
  have hdl : st.p.depth < (st.p.levels.setIfInBounds st.p.lvlIdx lv2).size := by
    rw [Array.size_setIfInBounds, hsh.hlv]; exact hc.2
  have hit := iter_begin_eq (sn := sn) hsh (classify_objBegin hsh he st.bc rest hrem) (by decide) hob hab
  change _ = caseObjBegin _ _ _ _ _ at hit
  unfold caseObjBegin at hit
  rw [if_pos hhas] at hit
  have hN : (st.p.levels.setIfInBounds st.p.lvlIdx lv2).getD st.p.depth Level.zero =
      if st.p.depth = st.p.lvlIdx then lv2 else st.p.getLvl st.p.depth := levels_getD_set _ hli _
  simp only [↓reduceIte, hc, and_self, Parser.setLvl_eq, Parser.touchLvl_eq, finish_eq, he, ne_eq, not_true_eq_false,
    Parser.getLvl, Array.setIfInBounds_setIfInBounds, Nat.add_sub_cancel, hN] at hit
  have hL : ∀ NL i, ((st.p.levels.setIfInBounds st.p.lvlIdx lv2).setIfInBounds st.p.depth NL).getD i Level.zero =
      if i = st.p.depth then NL else if i = st.p.lvlIdx then lv2 else st.p.getLvl i := fun NL i => by
    rw [levels_getD_set _ hdl, levels_getD_set _ hli]; rfl
  refine ⟨_, hit, (rem_cons hsh hrem).2.2, ?_⟩
  exact .ofIter hsh he hit rfl rfl rfl (hL { (if st.p.depth = st.p.lvlIdx then lv2 else st.p.getLvl st.p.depth) with flags := .expField })
    (congrArg (fun l => (Tok.objBegin, l) :: st.ev) ((hL _ _).trans (if_pos rfl)))

theorem iter_objBegin_pending (rest : Bytes) (hrem : st.p.rem = 0x40 :: rest) (lv1 lv2 : Level) (scan2 : Option Scan)
    (hob : objBlock { st.p.getLvl st.p.lvlIdx with ctype := .object } .objBegin = some (lv1, .objBegin))
    (hab : arrBlock lv1 .objBegin (decide (oa = lv1.ad ∧ od = st.p.depth)) st.scan = (lv2, scan2))
    (hhas : has scan2 [.verify, .enterObj, .value, .leaveArr, .leaveObj] = false) :
    ∃ st', iter st sn oa od = (st', proceed scan2 false) ∧
      StepRes st st' .none 0 scan2 st.p.depth (fun i => if i = st.p.lvlIdx then pendLevel lv2 else st.p.getLvl i)
        ((.objBegin, pendLevel lv2) :: st.ev) := by
  have hit := iter_begin_eq (sn := sn) hsh (classify_objBegin hsh he st.bc rest hrem) (by decide) hob hab
  change _ = caseObjBegin _ _ _ _ _ at hit
  unfold caseObjBegin at hit
  rw [if_neg (by rw [hhas]; decide)] at hit
  simp only [Parser.setLvl_eq, finish_eq, he, ne_eq, not_true_eq_false, ↓reduceIte, Array.setIfInBounds_setIfInBounds] at hit
  exact ⟨_, hit, .ofWrite hsh he hit rfl rfl rfl rfl rfl rfl⟩

/-- `{` with no state entry left: BINSON_ERROR_MAX_DEPTH_OBJECT, the call returns false -/
theorem iter_objBegin_limit (rest : Bytes) (hrem : st.p.rem = 0x40 :: rest) (lv1 lv2 : Level) (scan2 : Option Scan)
    (hob : objBlock { st.p.getLvl st.p.lvlIdx with ctype := .object } .objBegin = some (lv1, .objBegin))
    (hab : arrBlock lv1 .objBegin (decide (oa = lv1.ad ∧ od = st.p.depth)) st.scan = (lv2, scan2))
    (hhas : has scan2 [.verify, .enterObj, .value, .leaveArr, .leaveObj] = true)
    (hc : ¬ (st.p.depth < 255 ∧ st.p.depth < st.p.maxDepth)) :
    ∃ st', iter st sn oa od = (st', .ret false) ∧ st'.p.err = .maxDepthObject := by
  rw [iter_begin_eq hsh (classify_objBegin hsh he st.bc rest hrem) (by decide) hob hab]
  show ∃ st', caseObjBegin _ _ _ _ _ = _ ∧ _
  unfold caseObjBegin
  rw [if_pos hhas]
  simp only [↓reduceIte, hc, Parser.setLvl_eq, finish_eq, ne_eq, reduceCtorEq, not_false_eq_true]
  exact ⟨_, rfl, rfl⟩

/-- `[`, entered: consumed, the level is inside one more array; the ENTER_ARRAY bit is cleared -/
theorem iter_arrBegin_entered (rest : Bytes) (hrem : st.p.rem = 0x42 :: rest) (lv1 lv2 : Level) (scan2 : Option Scan)
    (hob : objBlock { st.p.getLvl st.p.lvlIdx with ctype := .array } .arrBegin = some (lv1, .arrBegin))
    (hab : arrBlock lv1 .arrBegin (decide (oa = lv1.ad ∧ od = st.p.depth)) st.scan = (lv2, scan2))
    (had : lv2.ad < 255)
    (hhas : has scan2 [.verify, .value, .enterArr, .leaveArr, .leaveObj] = true) :
    ∃ st', iter st sn oa od = (st', proceed (clear scan2 .enterArr) false) ∧ st'.p.rem = rest ∧
      StepRes st st' .none 1 (clear scan2 .enterArr) st.p.depth
        (fun i => if i = st.p.lvlIdx then { lv2 with flags := .arr1, ad := lv2.ad + 1 } else st.p.getLvl i)
        ((.arrBegin, { lv2 with flags := .arr1, ad := lv2.ad + 1 }) :: st.ev) := by
  have hit := iter_begin_eq (sn := sn) hsh (classify_arrBegin hsh he st.bc rest hrem) (by decide) hob hab
  change _ = caseArrBegin _ _ _ _ _ at hit
  unfold caseArrBegin at hit
  rw [if_neg (Nat.not_le_of_lt had), if_pos hhas] at hit
  simp only [Parser.setLvl_eq, finish_eq, he, ne_eq, not_true_eq_false, ↓reduceIte, Array.setIfInBounds_setIfInBounds] at hit
  exact ⟨_, hit, (rem_cons hsh hrem).2.2, .ofWrite hsh he hit rfl rfl rfl rfl rfl rfl⟩

theorem iter_arrBegin_pending (rest : Bytes) (hrem : st.p.rem = 0x42 :: rest) (lv1 lv2 : Level) (scan2 : Option Scan)
    (hob : objBlock { st.p.getLvl st.p.lvlIdx with ctype := .array } .arrBegin = some (lv1, .arrBegin))
    (hab : arrBlock lv1 .arrBegin (decide (oa = lv1.ad ∧ od = st.p.depth)) st.scan = (lv2, scan2))
    (had : lv2.ad < 255)
    (hhas : has scan2 [.verify, .value, .enterArr, .leaveArr, .leaveObj] = false) :
    ∃ st', iter st sn oa od = (st', proceed scan2 false) ∧
      StepRes st st' .none 0 scan2 st.p.depth (fun i => if i = st.p.lvlIdx then pendLevel lv2 else st.p.getLvl i)
        ((.arrBegin, pendLevel lv2) :: st.ev) := by
  have hit := iter_begin_eq (sn := sn) hsh (classify_arrBegin hsh he st.bc rest hrem) (by decide) hob hab
  change _ = caseArrBegin _ _ _ _ _ at hit
  unfold caseArrBegin at hit
  rw [if_neg (Nat.not_le_of_lt had), if_neg (by rw [hhas]; decide)] at hit
  simp only [Parser.setLvl_eq, finish_eq, he, ne_eq, not_true_eq_false, ↓reduceIte, Array.setIfInBounds_setIfInBounds] at hit
  exact ⟨_, hit, .ofWrite hsh he hit rfl rfl rfl rfl rfl rfl⟩

/-- `[` with 255 arrays already open in this level: BINSON_ERROR_MAX_DEPTH_ARRAY, the call returns false -/
theorem iter_arrBegin_limit (rest : Bytes) (hrem : st.p.rem = 0x42 :: rest) (lv1 lv2 : Level) (scan2 : Option Scan)
    (hob : objBlock { st.p.getLvl st.p.lvlIdx with ctype := .array } .arrBegin = some (lv1, .arrBegin))
    (hab : arrBlock lv1 .arrBegin (decide (oa = lv1.ad ∧ od = st.p.depth)) st.scan = (lv2, scan2))
    (had : 255 ≤ lv2.ad) :
    ∃ st', iter st sn oa od = (st', .ret false) ∧ st'.p.err = .maxDepthArray := by
  rw [iter_begin_eq hsh (classify_arrBegin hsh he st.bc rest hrem) (by decide) hob hab]
  show ∃ st', caseArrBegin _ _ _ _ _ = _ ∧ _
  unfold caseArrBegin
  rw [if_pos had, finish_eq, if_pos (by simp only [ne_eq, reduceCtorEq, not_false_eq_true]), Parser.setLvl_eq]
  exact ⟨_, rfl, rfl⟩

/-- a field name: the stages before the switch, and the name-order test passed -/
theorem iter_fieldName_eq (span : Span) (bc : Nat) (q : Parser) (hq : q = { st.p with used := st.p.used + bc })
    (hcl : classify st.p st.bc = ⟨.string, span, bc, q⟩) (hsp : span.off + span.len ≤ st.p.size)
    (hf : (st.p.getLvl st.p.lvlIdx).flags = .expField)
    (hord : ∀ pn, (st.p.getLvl st.p.lvlIdx).name = some pn → cmpBytes (st.p.slice pn) (st.p.slice span) < 0) :
    iter st sn oa od =
      if oa = (st.p.getLvl st.p.lvlIdx).ad ∧ od = st.p.depth then
        if overshoot st.p span sn then
          (⟨({ st.p with used := st.p.used + bc - bc } : Parser).setLvl st.p.lvlIdx { st.p.getLvl st.p.lvlIdx with flags := .expField },
            st.scan, bc, st.ev⟩, .ret false)
        else finish { st with bc := bc } .fieldName { st.p with used := st.p.used + bc } (nameLevel (st.p.getLvl st.p.lvlIdx) span)
          st.p.lvlIdx (clear st.scan .value) true
      else finish { st with bc := bc } .fieldName { st.p with used := st.p.used + bc } (nameLevel (st.p.getLvl st.p.lvlIdx) span)
        st.p.lvlIdx st.scan true := by
  subst hq
  have hin : InBuf { st.p with used := st.p.used + bc } (st.p.getLvl st.p.lvlIdx) span :=
    inBuf_of (p := { st.p with used := st.p.used + bc }) hsh.hbs (hsh.hsp he st.p.lvlIdx) hsp
  have hoe : nameOrdErr { st.p with used := st.p.used + bc } (st.p.getLvl st.p.lvlIdx) span = false := by
    unfold nameOrdErr
    cases hn : (st.p.getLvl st.p.lvlIdx).name with
    | none => rfl
    | some pn => exact decide_eq_false (Int.not_le.mpr (hord pn hn))
  rw [iter_of_blocks hcl (show Tok.string ≠ .error by decide)
    (show objBlock (st.p.getLvl st.p.lvlIdx) .string = some (_, .fieldName) from objBlock_fieldName hf)
    (show arrBlock (st.p.getLvl st.p.lvlIdx) .fieldName (decide (oa = (st.p.getLvl st.p.lvlIdx).ad ∧ od = st.p.depth)) st.scan = _ from
      arrBlock_notArr _ _ _ (by rw [hf]; rfl))]
  show caseFieldName _ _ _ _ _ _ _ _ _ _ = _
  unfold caseFieldName
  simp only [hin.1, hin.2, hoe, Bool.false_eq_true, if_false]
  rfl

/-- a field name, stored as the level's name; the level now expects its value, and at the
    originating level the VALUE bit is cleared -/
theorem iter_fieldName_store (span : Span) (bc : Nat) (q : Parser) (hq : q = { st.p with used := st.p.used + bc })
    (hcl : classify st.p st.bc = ⟨.string, span, bc, q⟩) (hsp : span.off + span.len ≤ st.p.size)
    (hf : (st.p.getLvl st.p.lvlIdx).flags = .expField)
    (hord : ∀ pn, (st.p.getLvl st.p.lvlIdx).name = some pn → cmpBytes (st.p.slice pn) (st.p.slice span) < 0)
    (hno : oa = (st.p.getLvl st.p.lvlIdx).ad ∧ od = st.p.depth → overshoot st.p span sn = false) :
    ∃ st', iter st sn oa od = (st', .cont) ∧
      StepRes st st' .none bc (if oa = (st.p.getLvl st.p.lvlIdx).ad ∧ od = st.p.depth then clear st.scan .value else st.scan) st.p.depth
        (fun i => if i = st.p.lvlIdx then nameLevel (st.p.getLvl st.p.lvlIdx) span else st.p.getLvl i)
        ((.fieldName, nameLevel (st.p.getLvl st.p.lvlIdx) span) :: st.ev) := by
  have hit := iter_fieldName_eq (sn := sn) (oa := oa) (od := od) hsh he span bc q hq hcl hsp hf hord
  have key : iter st sn oa od = finish { st with bc := bc } .fieldName { st.p with used := st.p.used + bc }
      (nameLevel (st.p.getLvl st.p.lvlIdx) span) st.p.lvlIdx
      (if oa = (st.p.getLvl st.p.lvlIdx).ad ∧ od = st.p.depth then clear st.scan .value else st.scan) true := by
    by_cases ho : oa = (st.p.getLvl st.p.lvlIdx).ad ∧ od = st.p.depth
    · rw [if_pos ho, hno ho, if_neg Bool.false_ne_true] at hit
      rw [if_pos ho]; exact hit
    · rw [if_neg ho] at hit
      rw [if_neg ho]; exact hit
  rw [finish_eq, if_neg (fun h => h he), Parser.setLvl_eq] at key
  exact ⟨_, key, .ofWrite hsh he key rfl rfl rfl he rfl rfl⟩

/-- a field name at the originating level that already exceeds the name looked for: the cursor is
    rewound before it and the call returns -/
theorem iter_fieldName_unread (span : Span) (bc : Nat) (q : Parser) (hq : q = { st.p with used := st.p.used + bc })
    (hcl : classify st.p st.bc = ⟨.string, span, bc, q⟩) (hsp : span.off + span.len ≤ st.p.size)
    (hf : (st.p.getLvl st.p.lvlIdx).flags = .expField)
    (hord : ∀ pn, (st.p.getLvl st.p.lvlIdx).name = some pn → cmpBytes (st.p.slice pn) (st.p.slice span) < 0)
    (hoa : oa = (st.p.getLvl st.p.lvlIdx).ad) (hod : od = st.p.depth) (hov : overshoot st.p span sn = true) :
    ∃ st', iter st sn oa od = (st', .ret false) ∧ StepRes st st' .none 0 st.scan st.p.depth (fun i => st.p.getLvl i) st.ev := by
  have hL : ({ st.p.getLvl st.p.lvlIdx with flags := .expField } : Level) = st.p.getLvl st.p.lvlIdx := by
    rw [← hf]
  have hit := iter_fieldName_eq (sn := sn) (oa := oa) (od := od) hsh he span bc q hq hcl hsp hf hord
  rw [if_pos ⟨hoa, hod⟩, hov, if_pos rfl, hL, Parser.setLvl_eq] at hit
  exact ⟨_, hit, .ofIter hsh he hit he (Nat.add_sub_cancel ..) rfl
    (fun i => congrArg (fun a => a.getD i Level.zero) (levels_set_self _ _)) rfl⟩

/-- a scalar value token: stored in the level the two flag blocks leave -/
theorem iter_scalar_gen (tok : Tok) (span : Span) (bc : Nat) (q : Parser) (hq : q = { st.p with used := st.p.used + bc })
    (hcl : classify st.p st.bc = ⟨tok, span, bc, q⟩) (hsp : span.off + span.len ≤ st.p.size)
    (hsc : tok.isScalar = true)
    (hint : tok = .integer → intBoundsOk (parseIntVal st.p span) span.len = true)
    (lv1 lv2 : Level) (scan2 : Option Scan)
    (hob : objBlock (st.p.getLvl st.p.lvlIdx) tok = some (lv1, tok))
    (hab : arrBlock lv1 tok (decide (oa = lv1.ad ∧ od = st.p.depth)) st.scan = (lv2, scan2)) :
    ∃ st', iter st sn oa od = (st', proceed scan2 false) ∧
      StepRes st st' .none bc scan2 st.p.depth (fun i => if i = st.p.lvlIdx then scalarStore tok lv2 span st.p else st.p.getLvl i)
        ((tok, scalarStore tok lv2 span st.p) :: st.ev) := by
  subst hq
  have hne : tok ≠ .error := by intro h; rw [h] at hsc; cases hsc
  have hit := iter_of_blocks (sn := sn) hcl hne (show objBlock (st.p.getLvl st.p.lvlIdx) tok = _ from hob)
    (show arrBlock lv1 tok (decide (oa = lv1.ad ∧ od = st.p.depth)) st.scan = _ from hab)
  dsimp only at hit
  rw [dispatch_scalar_store hsc (by rw [← hsh.hbs] at hsp; exact hsp)
      (fun h => by rw [parseIntVal_congr (p := st.p) (q := { st.p with used := st.p.used + bc }) rfl]; exact hint h),
    finish_eq, if_neg (fun h => h he), Parser.setLvl_eq,
    scalarStore_buf (p := st.p) (q := { st.p with used := st.p.used + bc }) rfl] at hit
  exact ⟨_, hit, .ofWrite hsh he hit rfl rfl rfl he rfl rfl⟩

end

def freshObjLevel : Level := { Level.zero with flags := .expField }

def arrInnerLevel (l : Level) : Level := { l with ctype := .array, flags := .arr1, ad := l.ad + 1 }

/-- an iteration that ends below the originating level, all levels from the new depth on being zero -/
theorem Deep.ofStep {st st' : LoopSt} {oa od du dep' : Nat} {lv : Nat → Level} {ev' : List Event}
    (hc : Cont st.scan) (hmd : st.p.maxDepth ≤ 255) (r : StepRes st st' .none du st.scan dep' lv ev') (hd : 1 ≤ dep')
    (hdeep : od < dep' ∨ (od = dep' ∧ oa < (lv (dep' - 1)).ad)) (hz : ∀ i, dep' ≤ i → lv i = Level.zero)
    (hroot : st.p.ptype = 2 → dep' = 1 → 1 ≤ (lv (dep' - 1)).ad) : Deep st' oa od := by
  have hi : st'.p.lvlIdx = dep' - 1 := by rw [Parser.lvlIdx_of_pos (by rw [r.depth]; exact hd), r.depth]
  refine ⟨r.shape, r.err, by rw [r.scan]; exact hc, by rw [r.depth]; exact hd, by rw [r.depth, hi, r.lvl]; exact hdeep,
    fun i h => by rw [r.lvl]; exact hz i (by rw [r.depth] at h; exact h), fun h1 h2 => ?_, by rw [r.frame.2.2.1]; exact hmd⟩
  rw [hi, r.lvl]; exact hroot (by rw [← r.frame.2.2.2.1]; exact h1) (by rw [← r.depth]; exact h2)

/-- ... in particular one that only writes the current level and opens or closes no array in it -/
theorem Deep.ofWrite {st st' : LoopSt} {oa od du : Nat} {NL : Level} {ev' : List Event} (hD : Deep st oa od)
    (r : StepRes st st' .none du st.scan st.p.depth (fun i => if i = st.p.lvlIdx then NL else st.p.getLvl i) ev')
    (had : (st.p.getLvl st.p.lvlIdx).ad ≤ NL.ad) : Deep st' oa od := by
  have hidx := Parser.lvlIdx_of_pos hD.d1
  refine Deep.ofStep hD.cont hD.md255 r hD.d1 ?_ (fun i hi => ?_) (fun h1 h2 => ?_)
  · rw [← hidx, if_pos rfl]
    exact hD.deeper.imp_right fun h => ⟨h.1, Nat.lt_of_lt_of_le h.2 had⟩
  · rw [if_neg (Nat.ne_of_gt (Nat.lt_of_lt_of_le (Parser.lvlIdx_lt hD.d1) hi))]; exact hD.zeros i hi
  · rw [← hidx, if_pos rfl]; exact Nat.le_trans (hD.rootArr h1 h2) had

/-- `{` in value position below the originating level: consumed, a fresh state entry is in use -/
theorem deep_objBegin {st : LoopSt} {sn : Option (List UInt8)} {oa od : Nat} (hD : Deep st oa od)
    (rest : Bytes) (hrem : st.p.rem = 0x40 :: rest) (hctx : ValCtx (st.p.getLvl st.p.lvlIdx)) (hdm : st.p.depth < st.p.maxDepth) :
    ∃ st', iter st sn oa od = (st', .cont) ∧ st'.p.rem = rest ∧ Deep st' oa od ∧
      StepRes st st' .none 1 st.scan (st.p.depth + 1)
        (fun i => if i = st.p.depth then freshObjLevel
          else if i = st.p.lvlIdx then valLevel { st.p.getLvl st.p.lvlIdx with ctype := .object } else st.p.getLvl i)
        ((.objBegin, freshObjLevel) :: st.ev) := by
  obtain ⟨hob, hab⟩ := blocks_value hD hctx (tok := .objBegin) rfl .object
  have hlt := Parser.lvlIdx_lt hD.d1
  obtain ⟨st', hit, hr, r⟩ := iter_objBegin_entered (sn := sn) hD.shape hD.err rest hrem _ _ st.scan hob hab hD.cont.has_objBegin
    ⟨Nat.lt_of_lt_of_le hdm hD.md255, hdm⟩
  rw [if_neg (Nat.ne_of_gt hlt), hD.zeros _ (Nat.le_refl _), hD.cont.clear_enterObj] at r
  rw [hD.cont.clear_enterObj, hD.cont.proceed_eq] at hit
  refine ⟨st', hit, hr, ?_, r⟩
  refine Deep.ofStep hD.cont hD.md255 r (Nat.le_add_left 1 _) (Or.inl ?_) (fun i hi => ?_) (fun _ h => ?_)
  · exact hD.deeper.elim Nat.lt_succ_of_lt fun h => h.1 ▸ Nat.lt_succ_self _
  · rw [if_neg (Nat.ne_of_gt hi), if_neg (Nat.ne_of_gt (Nat.lt_trans hlt hi))]; exact hD.zeros i (Nat.le_of_succ_le hi)
  · exact absurd (Nat.succ.inj h) (Nat.ne_of_gt hD.d1)

/-- `[` in value position below the originating level: consumed, the level is inside one more array -/
theorem deep_arrBegin {st : LoopSt} {sn : Option (List UInt8)} {oa od : Nat} (hD : Deep st oa od)
    (rest : Bytes) (hrem : st.p.rem = 0x42 :: rest) (hctx : ValCtx (st.p.getLvl st.p.lvlIdx)) (had : (st.p.getLvl st.p.lvlIdx).ad < 255) :
    ∃ st', iter st sn oa od = (st', .cont) ∧ st'.p.rem = rest ∧ Deep st' oa od ∧
      StepRes st st' .none 1 st.scan st.p.depth
        (fun i => if i = st.p.lvlIdx then arrInnerLevel (st.p.getLvl st.p.lvlIdx) else st.p.getLvl i)
        ((.arrBegin, arrInnerLevel (st.p.getLvl st.p.lvlIdx)) :: st.ev) := by
  obtain ⟨hob, hab⟩ := blocks_value hD hctx (tok := .arrBegin) rfl .array
  obtain ⟨st', hit, hr, r⟩ := iter_arrBegin_entered (sn := sn) hD.shape hD.err rest hrem _ _ st.scan hob hab had hD.cont.has_arrBegin
  rw [hD.cont.clear_enterArr] at r hit
  rw [hD.cont.proceed_eq] at hit
  exact ⟨st', hit, hr, hD.ofWrite r (Nat.le_succ _), r⟩

/-- a field name below the originating level: stored as the level's name, the level now expects its value -/
theorem deep_fieldName {st : LoopSt} {sn : Option (List UInt8)} {oa od : Nat} (hD : Deep st oa od)
    (span : Span) (bc : Nat) (q : Parser) (hq : q = { st.p with used := st.p.used + bc })
    (hcl : classify st.p st.bc = ⟨.string, span, bc, q⟩) (hsp : span.off + span.len ≤ st.p.size)
    (hf : (st.p.getLvl st.p.lvlIdx).flags = .expField)
    (hord : ∀ pn, (st.p.getLvl st.p.lvlIdx).name = some pn → cmpBytes (st.p.slice pn) (st.p.slice span) < 0) :
    ∃ st', iter st sn oa od = (st', .cont) ∧ Deep st' oa od ∧
      StepRes st st' .none bc st.scan st.p.depth
        (fun i => if i = st.p.lvlIdx then nameLevel (st.p.getLvl st.p.lvlIdx) span else st.p.getLvl i)
        ((.fieldName, nameLevel (st.p.getLvl st.p.lvlIdx) span) :: st.ev) := by
  have hno := hD.notOrig
  obtain ⟨st', hit, r⟩ := iter_fieldName_store (sn := sn) (oa := oa) (od := od) hD.shape hD.err span bc q hq hcl hsp hf hord
    (fun h => absurd h hno)
  rw [if_neg hno] at r
  exact ⟨st', hit, hD.ofWrite r (Nat.le_refl _), r⟩

end Binson
