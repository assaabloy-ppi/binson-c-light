/-
  Traversal programs (C10): decode then encode reproduces every valid document byte for
  byte - object- and array-rooted - and the writer's counter is exact whatever the capacity.
-/
import Binson.Lemmas.WalkTr
import Binson.Lemmas.WalkDesTop
import Binson.Lemmas.WriterProps
namespace Binson

/-- **the writer calls of a transcription are exactly `opsOf v`**, from ANY shaped parser over
    the encoding of a well-formed document (object- or array-rooted), into any writer -/
theorem transcribe_ops (p : Parser) (hs : Shape p) (root : Root) (v : Value) (md : Nat)
    (hbuf : p.buf = (encode v).toArray) (hpt : p.ptype = rootNum root) (hmd : p.maxDepth = md) (hmd255 : md ≤ 255)
    (hwf : wfDoc root md v = true) (w : Writer) :
    ∃ p', transcribe p w = (p', w.run (opsOf v), true) := by
  have hrk := rootKindOk_of_wfDoc hwf
  obtain ⟨r1, hF, hA⟩ := reset_encode_start hs hbuf hpt hmd hmd255 hwf
  cases root with
  | object =>
    cases v with
    | obj fs =>
      obtain ⟨e1, p', hD, e3⟩ := walk_descent_rootObj hA
      have e2 := transcribeFields_descent fs (2 * (reset p).1.size + 4) (w.step .objBegin).1
        (by have := walk_fuel hF; simp only [tokens] at this; omega) hD
      have hpt' : (reset p).1.ptype = 1 := hF.ptype
      refine ⟨(leaveObject p').1, ?_⟩
      unfold transcribe
      simp only [r1, hpt', e1, e2, e3, opsOf, walk_run_cons, walk_run_snoc]
      simp
    | _ => simp [rootKindOk] at hrk
  | array =>
    cases v with
    | arr xs =>
      obtain ⟨e1, p', hD, e3⟩ := walk_descent_rootArr hA
      have e2 := transcribeElems_descent xs (2 * (reset p).1.size + 4) (w.step .arrBegin).1
        (by have := walk_fuel hF; simp only [tokens] at this; omega) hD
      have hpt' : (reset p).1.ptype = 2 := hF.ptype
      refine ⟨(leaveArray p').1, ?_⟩
      unfold transcribe
      simp only [r1, hpt', e1, e2, e3, opsOf, walk_run_cons, walk_run_snoc]
      simp
    | _ => simp [rootKindOk] at hrk

/-- **C10.** Decode then encode reproduces every valid document byte for byte: for a well-formed
    document `v` (object- or array-rooted) that fits the depth configuration of any allocated parser
    object, transcribing `init(encode v)` into a writer over a large enough buffer succeeds, the
    writer ends error-free with `used = |encode v|`, and the bytes written are `encode v`. -/
theorem transcribe_id (root : Root) (v : Value) (g : Parser) (ha : Alloc g) (md : Nat) (hmd : g.maxDepth = md) (hmd255 : md ≤ 255)
    (hwf : wfDoc root md v = true) (hsz : (encode v).length < 2 ^ 63)
    (m0 : Array UInt8) (cap : Nat) (hm : m0.size = cap) (hlen : (encode v).length ≤ cap) (hcap : cap < 2 ^ 63) :
    ∃ p' w', transcribe (init g (encode v).toArray (rootNum root)).1 (Writer.init m0 cap).1 = (p', w', true) ∧
      w' = (Writer.init m0 cap).1.run (opsOf v) ∧
      w'.err = .none ∧ w'.used = (encode v).length ∧ (w'.mem.extract 0 w'.used).toList = encode v := by
  subst hm
  subst hmd
  obtain ⟨_, hF, _, _⟩ := verify_wellformed g ha hmd255 root v hwf hsz
  obtain ⟨p', ht⟩ := transcribe_ops (init g (encode v).toArray (rootNum root)).1 hF.shape root v g.maxDepth hF.buf hF.ptype
    hF.maxDepth hmd255 hwf (Writer.init m0 m0.size).1
  obtain ⟨w1, w2, w3⟩ := write_value_encode v (wfValue_of_wfDoc hwf) m0 hlen hcap
  refine ⟨p', _, ht, rfl, w1, w2, ?_⟩
  rw [Array.toList_extract, w2]
  simpa using w3

/-- the dry-run / too-small variant: whatever the capacity, the transcription goes through on the
    parser side and the writer's counter is the exact size of the document -/
theorem transcribe_counter (root : Root) (v : Value) (g : Parser) (ha : Alloc g) (md : Nat) (hmd : g.maxDepth = md) (hmd255 : md ≤ 255)
    (hwf : wfDoc root md v = true) (hsz : (encode v).length < 2 ^ 63)
    (m0 : Array UInt8) (cap : Nat) (hm : m0.size = cap) (hcap : cap < 2 ^ 63) :
    ∃ p' w', transcribe (init g (encode v).toArray (rootNum root)).1 (Writer.init m0 cap).1 = (p', w', true) ∧
      w'.used = (encode v).length ∧ w'.fault = false ∧ (w'.err = .range ↔ cap < (encode v).length) ∧
      (w'.err = .none ∨ w'.err = .range) := by
  subst hmd
  obtain ⟨_, hF, _, _⟩ := verify_wellformed g ha hmd255 root v hwf hsz
  obtain ⟨p', ht⟩ := transcribe_ops (init g (encode v).toArray (rootNum root)).1 hF.shape root v g.maxDepth hF.buf hF.ptype
    hF.maxDepth hmd255 hwf (Writer.init m0 cap).1
  have hwv := wfValue_of_wfDoc hwf
  have htot : totalLen (allPieces (opsOf v)) = (encode v).length := by
    rw [totalLen_eq_flatten, pieces_opsOf v hwv]
  obtain ⟨h1, _, h3, h4, h5, _⟩ := writer_run64 (opsOf v) cap m0 hm (opsOf_valid v hwv) (by omega) (by omega)
  rw [htot] at h3 h4
  exact ⟨p', _, ht, h3, h1, h4, h5⟩

end Binson
