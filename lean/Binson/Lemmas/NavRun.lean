/-
  Layer 4: fuel-free vocabulary for the token loop. `Steps` = some number of
  continuing iterations, `Halts` = the loop returns. A halting run determines `advance`
  whatever fuel it was given (the fuel of `advance` is always sufficient, `advLoop_spec`).
-/
import Binson.Lemmas.VerifyValid
import Binson.Lemmas.NavDefs
namespace Binson

def Steps (sn : Option (List UInt8)) (oa od : Nat) (st st' : LoopSt) : Prop :=
  ∃ n, advLoop n st sn oa od = (st', .outOfFuel)

def Halts (sn : Option (List UInt8)) (oa od : Nat) (st st' : LoopSt) (b : Bool) : Prop :=
  ∃ n, advLoop n st sn oa od = (st', .done b)

theorem advLoop_zero (st : LoopSt) (sn : Option (List UInt8)) (oa od : Nat) :
    advLoop 0 st sn oa od = (st, .outOfFuel) := by
  unfold advLoop; rfl

theorem advLoop_stop {f : Nat} {st st' : LoopSt} {sn : Option (List UInt8)} {oa od : Nat}
    (h : iter st sn oa od = (st', .stop)) :
    advLoop (f + 1) st sn oa od = (st', .done (decide (st'.p.err = .none))) := by
  rw [advLoop_succ, h]

theorem advLoop_split {n : Nat} {st st' : LoopSt} {sn : Option (List UInt8)} {oa od : Nat}
    (h : advLoop n st sn oa od = (st', .outOfFuel)) (f : Nat) :
    advLoop (n + f) st sn oa od = advLoop f st' sn oa od := by
  induction n generalizing st with
  | zero =>
    rw [advLoop_zero] at h
    injection h with h1 _
    rw [h1, Nat.zero_add]
  | succ n ih =>
    rw [show n + 1 + f = (n + f) + 1 by omega]
    cases hi : iter st sn oa od with
    | mk s out =>
      cases out with
      | ret b => rw [advLoop_ret hi] at h; simp at h
      | stop => rw [advLoop_stop hi] at h; simp at h
      | cont => rw [advLoop_cont hi] at h ⊢; exact ih h

theorem advLoop_mono {n : Nat} {st r : LoopSt} {b : Bool} {sn : Option (List UInt8)} {oa od : Nat}
    (h : advLoop n st sn oa od = (r, .done b)) (m : Nat) :
    advLoop m st sn oa od = (r, .done b) ∨ (advLoop m st sn oa od).2 = .outOfFuel := by
  induction n generalizing st m with
  | zero => rw [advLoop_zero] at h; simp at h
  | succ n ih =>
    cases m with
    | zero => right; rw [advLoop_zero]
    | succ m =>
      cases hi : iter st sn oa od with
      | mk s out =>
        cases out with
        | ret b' => left; rw [advLoop_ret hi] at h ⊢; exact h
        | stop => left; rw [advLoop_stop hi] at h ⊢; exact h
        | cont => rw [advLoop_cont hi] at h ⊢; exact ih h m

theorem Steps.refl (sn : Option (List UInt8)) (oa od : Nat) (st : LoopSt) : Steps sn oa od st st :=
  ⟨0, advLoop_zero _ _ _ _⟩

theorem Steps.one {sn : Option (List UInt8)} {oa od : Nat} {st st' : LoopSt}
    (h : iter st sn oa od = (st', .cont)) : Steps sn oa od st st' :=
  ⟨1, by rw [advLoop_cont h, advLoop_zero]⟩

theorem Steps.trans {sn : Option (List UInt8)} {oa od : Nat} {a b c : LoopSt}
    (h1 : Steps sn oa od a b) (h2 : Steps sn oa od b c) : Steps sn oa od a c := by
  obtain ⟨n1, e1⟩ := h1
  obtain ⟨n2, e2⟩ := h2
  exact ⟨n1 + n2, by rw [advLoop_split e1, e2]⟩

/-- the shape the pass-through lemmas deliver -/
theorem Steps.ofPass {sn : Option (List UInt8)} {oa od : Nat} {st st' : LoopSt} {n : Nat}
    (h : advLoop (n + 0) st sn oa od = advLoop 0 st' sn oa od) : Steps sn oa od st st' :=
  ⟨n, by rw [← Nat.add_zero n, h, advLoop_zero]⟩

theorem Halts.ret {sn : Option (List UInt8)} {oa od : Nat} {st st' : LoopSt} {b : Bool}
    (h : iter st sn oa od = (st', .ret b)) : Halts sn oa od st st' b :=
  ⟨1, advLoop_ret h⟩

theorem Halts.stop {sn : Option (List UInt8)} {oa od : Nat} {st st' : LoopSt}
    (h : iter st sn oa od = (st', .stop)) (he : st'.p.err = .none) : Halts sn oa od st st' true := by
  refine ⟨1, ?_⟩
  rw [advLoop_stop h]
  simp [he]

theorem Steps.halts {sn : Option (List UInt8)} {oa od : Nat} {a b c : LoopSt} {r : Bool}
    (h1 : Steps sn oa od a b) (h2 : Halts sn oa od b c r) : Halts sn oa od a c r := by
  obtain ⟨n1, e1⟩ := h1
  obtain ⟨n2, e2⟩ := h2
  exact ⟨n1 + n2, by rw [advLoop_split e1, e2]⟩

theorem advance_of_halts {p : Parser} (hs : Shape p) (he : p.err = .none) (scan : Scan) (sn : Option (List UInt8))
    {r : LoopSt} {b : Bool} (h : Halts sn (p.getLvl p.cur).ad p.depth ⟨p, some scan, 0, []⟩ r b) :
    (advance p scan sn).p = r.p ∧ (advance p scan sn).ret = b := by
  obtain ⟨n, hn⟩ := h
  have ls := advLoop_spec (p.size - p.used + 2) ⟨p, some scan, 0, []⟩ sn (p.getLvl p.cur).ad p.depth hs he (by simp)
  have hm := advLoop_mono hn (p.size - p.used + 2)
  unfold advance
  rw [if_neg (by simp [he])]
  simp only [touchLvl_of_lt hs.cur_lt]
  rcases hm with hm | hm
  · rw [hm]; exact ⟨rfl, rfl⟩
  · exact absurd hm ls.fuel

end Binson
