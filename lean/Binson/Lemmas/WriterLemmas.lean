/-
  Writer lemmas: what the `_write` calls of an op sequence are (`WOp.pieces`), what a run of
  `_write` calls does to the writer (`Writer.writes`), and the link to the canonical encoder.
-/
import Binson.Lemmas.L0
namespace Binson

/-- payloads of the `_write` calls one op makes, in order -/
def WOp.pieces : WOp → List (List UInt8)
  | .objBegin => [[0x40]] | .objEnd => [[0x41]] | .arrBegin => [[0x42]] | .arrEnd => [[0x43]]
  | .bool b => [[if b then 0x44 else 0x45]]
  | .int v => [packInt 0x10 v]
  | .dbl bits => [0x46 :: leBytesM 8 bits]
  | .str s => packInt 0x14 (s.length : Int) :: (if s.length > 0 then [s] else [])
  | .bytes s => packInt 0x18 (s.length : Int) :: (if s.length > 0 then [s] else [])
  | .raw s => [s]

def allPieces (ops : List WOp) : List (List UInt8) := ops.flatMap WOp.pieces

def totalLen (ps : List (List UInt8)) : Nat := (ps.map List.length).sum

/-- everything written before the first piece that did not fit (later pieces are suppressed
    even if they would fit) -/
def fittedPieces (cap : Nat) : Nat → List (List UInt8) → List UInt8
  | _, [] => []
  | used, p :: r => if used + p.length ≤ cap then p ++ fittedPieces cap (used + p.length) r else []

def WOp.Valid : WOp → Prop
  | .str s => s.length ≤ 2147483647 | .bytes s => s.length ≤ 2147483647 | _ => True

def Writer.writes (w : Writer) (ps : List (List UInt8)) : Writer :=
  ps.foldl (fun w p => (w.write p).1) w

@[simp] theorem totalLen_nil : totalLen [] = 0 := rfl
@[simp] theorem totalLen_cons (p : List UInt8) (r : List (List UInt8)) :
    totalLen (p :: r) = p.length + totalLen r := by simp [totalLen]
@[simp] theorem totalLen_append (a b : List (List UInt8)) : totalLen (a ++ b) = totalLen a + totalLen b := by
  induction a with
  | nil => simp
  | cons p r ih => simp [ih]; omega

theorem totalLen_eq_flatten (ps : List (List UInt8)) : totalLen ps = ps.flatten.length := by
  induction ps with
  | nil => rfl
  | cons p r ih => simp [ih]

@[simp] theorem allPieces_nil : allPieces [] = [] := rfl
@[simp] theorem allPieces_cons (op : WOp) (r : List WOp) : allPieces (op :: r) = op.pieces ++ allPieces r := by
  simp [allPieces]
@[simp] theorem allPieces_append (a b : List WOp) : allPieces (a ++ b) = allPieces a ++ allPieces b := by
  simp [allPieces]

theorem fittedPieces_cons_pos (cap used : Nat) (p : List UInt8) (r : List (List UInt8)) (h : used + p.length ≤ cap) :
    fittedPieces cap used (p :: r) = p ++ fittedPieces cap (used + p.length) r := by
  rw [fittedPieces, if_pos h]
theorem fittedPieces_cons_neg (cap used : Nat) (p : List UInt8) (r : List (List UInt8)) (h : ¬ used + p.length ≤ cap) :
    fittedPieces cap used (p :: r) = [] := by
  rw [fittedPieces, if_neg h]

theorem fittedPieces_length_le (cap : Nat) (ps : List (List UInt8)) (used : Nat) (h : used ≤ cap) :
    used + (fittedPieces cap used ps).length ≤ cap := by
  induction ps generalizing used with
  | nil => simpa [fittedPieces] using h
  | cons p r ih =>
    unfold fittedPieces
    split
    · rename_i hfit
      have := ih (used + p.length) hfit
      simp only [List.length_append]; omega
    · simpa using h

theorem fittedPieces_all (cap : Nat) (ps : List (List UInt8)) (used : Nat) (h : used + totalLen ps ≤ cap) :
    fittedPieces cap used ps = ps.flatten := by
  induction ps generalizing used with
  | nil => rfl
  | cons p r ih =>
    rw [totalLen_cons] at h
    unfold fittedPieces
    rw [if_pos (by omega), ih (used + p.length) (by omega)]
    simp

@[simp] theorem storeAt_size (mem : Array UInt8) (off : Nat) (data : List UInt8) :
    (storeAt mem off data).size = mem.size := by
  induction data generalizing mem off with
  | nil => rfl
  | cons b r ih => simp [storeAt, ih]

theorem storeAt_append (mem : Array UInt8) (off : Nat) (a b : List UInt8) :
    storeAt mem off (a ++ b) = storeAt (storeAt mem off a) (off + a.length) b := by
  induction a generalizing mem off with
  | nil => rfl
  | cons x a ih => rw [List.cons_append, storeAt, storeAt, ih, List.length_cons, Nat.add_right_comm, Nat.add_assoc]

theorem storeAt_toList_split (data : List UInt8) (mem : Array UInt8) (pre rest : List UInt8)
    (hm : mem.toList = pre ++ rest) (hl : data.length ≤ rest.length) :
    (storeAt mem pre.length data).toList = pre ++ data ++ rest.drop data.length := by
  induction data generalizing mem pre rest with
  | nil => simpa [storeAt] using hm
  | cons b d ih =>
    cases rest with
    | nil => simp at hl
    | cons x rest' =>
      simp only [List.length_cons] at hl
      have hm' : (mem.setIfInBounds pre.length b).toList = (pre ++ [b]) ++ rest' := by
        rw [Array.toList_setIfInBounds, hm]
        simp
      have := ih (mem.setIfInBounds pre.length b) (pre ++ [b]) rest' hm' (by omega)
      simp only [List.length_append, List.length_cons, List.length_nil] at this
      simp only [storeAt]
      rw [this]
      simp

theorem storeAt_toList (mem : Array UInt8) (off : Nat) (data : List UInt8) (h : off + data.length ≤ mem.size) :
    (storeAt mem off data).toList = mem.toList.take off ++ data ++ mem.toList.drop (off + data.length) := by
  have hlen : (mem.toList.take off).length = off := by
    simp; omega
  have := storeAt_toList_split data mem (mem.toList.take off) (mem.toList.drop off)
    (by simp) (by simp; omega)
  rw [hlen] at this
  rw [this, List.drop_drop]

theorem write_ok (w : Writer) (data : List UInt8) (hb : w.bufNull = false) (he : w.err = .none)
    (hfit : w.used + data.length ≤ w.cap) (hc : w.cap < two64) :
    w.write data = ({ w with mem := storeAt w.mem w.used data,
                             fault := w.fault || decide (w.mem.size < w.used + data.length),
                             used := w.used + data.length }, true) := by
  have hmod : (w.used + data.length) % two64 = w.used + data.length := Nat.mod_eq_of_lt (by omega)
  have h1 : ¬ (w.used + data.length > w.cap) := by omega
  have h2 : ¬ (w.used + data.length < w.used) := by omega
  unfold Writer.write
  simp only [hmod, h1, h2, hb, he, if_false, if_true, decide_true, Bool.false_eq_true]

theorem write_fail (w : Writer) (data : List UInt8) (hb : w.bufNull = false)
    (hfit : w.cap < w.used + data.length) (hc : w.used + data.length < two64) :
    w.write data = ({ w with err := .range, used := w.used + data.length }, false) := by
  have hmod : (w.used + data.length) % two64 = w.used + data.length := Nat.mod_eq_of_lt hc
  have h1 : w.used + data.length > w.cap := hfit
  unfold Writer.write
  simp [hmod, h1, hb]

theorem write_latched (w : Writer) (data : List UInt8) (h : w.err ≠ .none) :
    ∃ e, e ≠ .none ∧ (w.bufNull = false → w.err = .range → e = .range) ∧
      w.write data = ({ w with err := e, used := (w.used + data.length) % two64 }, false) := by
  have key : (if w.bufNull then Err.null else
      if (w.used + data.length) % two64 > w.cap then Err.range
      else if (w.used + data.length) % two64 < w.used then Err.range else w.err) ≠ .none := by
    split
    · simp
    · split
      · simp
      · split
        · simp
        · exact h
  refine ⟨_, key, ?_, ?_⟩
  · intro hb hr
    rw [hb, hr, if_neg Bool.false_ne_true]
    split
    · rfl
    · split <;> rfl
  · unfold Writer.write
    simp only [key, if_false, decide_false]

@[simp] theorem writes_nil (w : Writer) : w.writes [] = w := rfl
@[simp] theorem writes_cons (w : Writer) (p : List UInt8) (r : List (List UInt8)) :
    w.writes (p :: r) = (w.write p).1.writes r := rfl
theorem writes_append (w : Writer) (a b : List (List UInt8)) : w.writes (a ++ b) = (w.writes a).writes b := by
  simp [Writer.writes]

/-- once the error is set, writes only move the counter (stated while it does not wrap) -/
theorem writes_latched (ps : List (List UInt8)) (w : Writer) (h : w.err ≠ .none)
    (hu : w.used + totalLen ps < two64) :
    ∃ e, e ≠ .none ∧ (w.bufNull = false → w.err = .range → e = .range) ∧
      w.writes ps = { w with err := e, used := w.used + totalLen ps } := by
  induction ps generalizing w with
  | nil => exact ⟨w.err, h, fun _ hr => hr, rfl⟩
  | cons p r ih =>
    rw [totalLen_cons] at hu
    obtain ⟨e1, h1, hr1, eq1⟩ := write_latched w p h
    rw [Nat.mod_eq_of_lt (by omega)] at eq1
    obtain ⟨e2, h2, hr2, eq2⟩ := ih { w with err := e1, used := w.used + p.length } h1 (by simp only; omega)
    refine ⟨e2, h2, fun hb hr => hr2 hb (hr1 hb hr), ?_⟩
    rw [writes_cons, eq1, eq2, totalLen_cons, Nat.add_assoc]

theorem writes_eq (ps : List (List UInt8)) (w : Writer) (hb : w.bufNull = false) (he : w.err = .none)
    (hf : w.fault = false) (hsz : w.mem.size = w.cap) (hu : w.used ≤ w.cap) (hc : w.cap < two64)
    (htot : w.used + totalLen ps < two64) :
    w.writes ps = { w with used := w.used + totalLen ps,
                           err := if w.used + totalLen ps ≤ w.cap then .none else .range,
                           mem := storeAt w.mem w.used (fittedPieces w.cap w.used ps) } := by
  induction ps generalizing w with
  | nil =>
    rw [writes_nil, totalLen_nil, Nat.add_zero, if_pos hu, ← he]
    rfl
  | cons p r ih =>
    rw [totalLen_cons] at htot
    rw [writes_cons, totalLen_cons, ← Nat.add_assoc]
    by_cases hfit : w.used + p.length ≤ w.cap
    · have hnf : (w.fault || decide (w.mem.size < w.used + p.length)) = false := by
        rw [hf, Bool.false_or, decide_eq_false_iff_not]; omega
      rw [write_ok w p hb he hfit hc, fittedPieces_cons_pos _ _ _ _ hfit, storeAt_append,
        ih { w with mem := storeAt w.mem w.used p,
                    fault := w.fault || decide (w.mem.size < w.used + p.length),
                    used := w.used + p.length } hb he hnf ((storeAt_size _ _ _).trans hsz) hfit hc (by simp only; omega)]
      congr 1
      rw [hnf, hf]
    · obtain ⟨e, _, hr, eq⟩ := writes_latched r { w with err := .range, used := w.used + p.length }
        (by simp) (by simp only; omega)
      rw [write_fail w p hb (by omega) (by omega), eq, hr hb rfl, fittedPieces_cons_neg _ _ _ _ hfit,
        if_neg (by omega)]
      rfl

theorem writeBlob_eq_writes (w : Writer) (base : UInt8) (s : List UInt8) :
    (w.writeBlob base s).1 =
      (if s.length > 2147483647 then { w with err := .format } else w).writes
        (packInt base (s.length : Int) :: (if s.length > 0 then [s] else [])) := by
  unfold Writer.writeBlob
  by_cases h0 : s.length > 0
  · simp only [h0, if_true, writes_cons, writes_nil]
  · simp only [h0, if_false, writes_cons, writes_nil]

theorem step_eq_writes (w : Writer) (op : WOp) (hv : op.Valid) : (w.step op).1 = w.writes op.pieces := by
  cases op with
  | str s => exact (writeBlob_eq_writes w 0x14 s).trans (by rw [if_neg (Nat.not_lt.mpr hv)]; rfl)
  | bytes s => exact (writeBlob_eq_writes w 0x18 s).trans (by rw [if_neg (Nat.not_lt.mpr hv)]; rfl)
  | _ => rfl

@[simp] theorem run_nil (w : Writer) : w.run [] = w := rfl
@[simp] theorem run_cons (w : Writer) (op : WOp) (r : List WOp) : w.run (op :: r) = (w.step op).1.run r := rfl

theorem run_eq_writes (ops : List WOp) (w : Writer) (hv : ∀ op ∈ ops, op.Valid) :
    w.run ops = w.writes (allPieces ops) := by
  induction ops generalizing w with
  | nil => rfl
  | cons op r ih =>
    rw [run_cons, allPieces_cons, writes_append, step_eq_writes w op (hv op (by simp)),
      ih _ (fun o ho => hv o (by simp [ho]))]

/-- `writeBlob` on a writer whose error is already set (any length, also > INT32_MAX) -/
theorem writeBlob_latched (w : Writer) (base : UInt8) (s : List UInt8) (h : w.err ≠ .none) :
    ∃ e, e ≠ .none ∧ w.writeBlob base s = ({ w with err := e, used :=
      (w.used + totalLen (packInt base (s.length : Int) :: (if s.length > 0 then [s] else []))) % two64 }, false) := by
  -- whatever the INT32_MAX check leaves as error `e0`, one or two latched writes follow
  have key : ∀ e0, e0 ≠ Err.none →
      ∃ e, e ≠ .none ∧
        (let r := ({ w with err := e0 } : Writer).write (packInt base (s.length : Int))
         if s.length > 0 then r.1.write s else r) = ({ w with err := e, used :=
          (w.used + totalLen (packInt base (s.length : Int) :: (if s.length > 0 then [s] else []))) % two64 }, false) := by
    intro e0 he0
    obtain ⟨e1, h1, _, eq1⟩ := write_latched { w with err := e0 } (packInt base (s.length : Int)) he0
    by_cases h0 : s.length > 0
    · obtain ⟨e2, h2, _, eq2⟩ := write_latched
        { w with err := e1, used := (w.used + (packInt base (s.length : Int)).length) % two64 } s h1
      refine ⟨e2, h2, ?_⟩
      simp only [h0, if_true, eq1, eq2, totalLen_cons, totalLen_nil]
      congr 2
      unfold two64
      omega
    · exact ⟨e1, h1, by simp only [h0, if_false, eq1, totalLen_cons, totalLen_nil, Nat.add_zero]⟩
  unfold Writer.writeBlob
  by_cases hbig : s.length > 2147483647
  · simp only [hbig, if_true]
    exact key .format (by simp)
  · simp only [hbig, if_false]
    exact key w.err h

theorem step_latched (w : Writer) (op : WOp) (h : w.err ≠ .none) :
    ∃ e, e ≠ .none ∧
      w.step op = ({ w with err := e, used := (w.used + totalLen op.pieces) % two64 }, false) := by
  have single : ∀ d : List UInt8, ∃ e, e ≠ .none ∧
      w.write d = ({ w with err := e, used := (w.used + totalLen [d]) % two64 }, false) := by
    intro d
    obtain ⟨e, he, _, eq⟩ := write_latched w d h
    exact ⟨e, he, by rw [eq, totalLen_cons, totalLen_nil, Nat.add_zero]⟩
  cases op with
  | str s => exact writeBlob_latched w 0x14 s h
  | bytes s => exact writeBlob_latched w 0x18 s h
  | objBegin => exact single _
  | objEnd => exact single _
  | arrBegin => exact single _
  | arrEnd => exact single _
  | bool b => exact single _
  | int v => exact single _
  | dbl bits => exact single _
  | raw s => exact single _

theorem run_latched (ops : List WOp) (w : Writer) (h : w.err ≠ .none) :
    ∃ e, e ≠ .none ∧ ∃ u, w.run ops = { w with err := e, used := u } := by
  induction ops generalizing w with
  | nil => exact ⟨w.err, h, w.used, rfl⟩
  | cons op r ih =>
    obtain ⟨e1, h1, eq1⟩ := step_latched w op h
    obtain ⟨e2, h2, u2, eq2⟩ := ih { w with err := e1, used := (w.used + totalLen op.pieces) % two64 } h1
    exact ⟨e2, h2, u2, by rw [run_cons, eq1, eq2]⟩

/-! ### the writer's integer packing is the spec's -/

theorem leBytesM_eq_leBytes (w n : Nat) : leBytesM w n = leBytes w n := by
  induction w generalizing n with
  | zero => rfl
  | succ w ih => simp [leBytesM, leBytes, ih]

@[simp] theorem leBytesM_length (w n : Nat) : (leBytesM w n).length = w := by
  rw [leBytesM_eq_leBytes, leBytes_length]

theorem toNat_emod_emod (v : Int) (M N : Nat) (hM : 0 < M) (hN : 0 < N) (hd : M ∣ N) :
    (v % (N : Int)).toNat % M = (v % (M : Int)).toNat := by
  apply Int.ofNat_inj.mp
  rw [Int.natCast_emod, Int.toNat_of_nonneg (Int.emod_nonneg _ (by omega)),
    Int.toNat_of_nonneg (Int.emod_nonneg _ (by omega))]
  exact Int.emod_emod_of_dvd v (Int.natCast_dvd_natCast.mpr hd)

/-- the low `w` bytes of `(uint64_t) v` are the low `w` bytes of `v mod 256^w`, as `256^w` divides `2^64` -/
theorem leBytesM_toU64 (w : Nat) (hw : w ≤ 8) (v : Int) :
    leBytesM w (toU64 v) = leBytes w (v % ((256 : Int) ^ w)).toNat := by
  rw [leBytesM_eq_leBytes, ← leBytes_mod w (toU64 v)]
  congr 1
  have h := toNat_emod_emod v (256 ^ w) (256 ^ 8) (Nat.pow_pos (by decide)) (by decide) (Nat.pow_dvd_pow 256 hw)
  rw [Int.natCast_pow] at h
  exact h

/-- `packInt` is `encInt` on every integer, not only on int64 values -/
theorem packInt_encInt (base : UInt8) (v : Int) : packInt base v = encInt base v := by
  unfold packInt encInt encIntBody intWidth
  rcases intWidthExp_eq v with ⟨e, h0⟩ | ⟨e, h0, h1⟩ | ⟨e, h0, h1, h2⟩ | ⟨e, h0⟩ <;> rw [e]
  · rw [if_pos h0, leBytesM_toU64 1 (by decide)]
    simp
  · rw [if_neg h0, if_pos h1, leBytesM_toU64 2 (by decide)]
    rfl
  · rw [if_neg (by omega), if_neg h0, if_pos ⟨h1, h2⟩, leBytesM_toU64 4 (by decide)]
    rfl
  · rw [if_neg (by omega), if_neg (by omega), if_neg h0, leBytesM_toU64 8 (by decide)]
    rfl

mutual
/-- the well-formed call sequence that writes a value: name before each value inside objects -/
def opsOf : Value → List WOp
  | .bool b => [.bool b] | .int i => [.int i] | .dbl d => [.dbl d.toNat] | .str s => [.str s] | .bytes s => [.bytes s]
  | .arr xs => .arrBegin :: (opsOfE xs ++ [.arrEnd])
  | .obj fs => .objBegin :: (opsOfF fs ++ [.objEnd])
def opsOfE : Elems → List WOp
  | .nil => []
  | .cons v r => opsOf v ++ opsOfE r
def opsOfF : Fields → List WOp
  | .nil => []
  | .cons n v r => .str n :: (opsOf v ++ opsOfF r)
end

theorem blob_pieces_flatten (base : UInt8) (s : List UInt8) :
    (packInt base (s.length : Int) :: (if s.length > 0 then [s] else [])).flatten = encStr base s := by
  unfold encStr
  rw [packInt_encInt]
  by_cases h0 : s.length > 0
  · simp [h0]
  · have : s = [] := List.eq_nil_of_length_eq_zero (by omega)
    subst this
    simp

/-! ### the length-only part of `wfValue`

What the writer needs of a value is only that every string, bytes and field-name length is within
INT32_MAX (otherwise it latches FORMAT); neither name order nor the int64 range of integers. -/

mutual
def lensOk : Value → Bool
  | .str s => decide (s.length ≤ INT32_MAX)
  | .bytes s => decide (s.length ≤ INT32_MAX)
  | .arr xs => lensOkE xs
  | .obj fs => lensOkF fs
  | _ => true
def lensOkE : Elems → Bool
  | .nil => true
  | .cons v r => lensOk v && lensOkE r
def lensOkF : Fields → Bool
  | .nil => true
  | .cons n v r => decide (n.length ≤ INT32_MAX) && lensOk v && lensOkF r
end

mutual
theorem lensOk_of_wf (v : Value) (h : wfValue v = true) : lensOk v = true := by
  cases v with
  | arr xs => exact lensOkE_of_wf xs h
  | obj fs => exact lensOkF_of_wf none fs h
  | str s => exact h
  | bytes s => exact h
  | _ => rfl
theorem lensOkE_of_wf (xs : Elems) (h : wfElems xs = true) : lensOkE xs = true := by
  cases xs with
  | nil => rfl
  | cons v r =>
    rw [wfElems, Bool.and_eq_true] at h
    rw [lensOkE, lensOk_of_wf v h.1, lensOkE_of_wf r h.2]
    rfl
theorem lensOkF_of_wf (prev : Option Bytes) (fs : Fields) (h : wfFields prev fs = true) : lensOkF fs = true := by
  cases fs with
  | nil => rfl
  | cons n v r =>
    rw [wfFields, Bool.and_eq_true, Bool.and_eq_true, Bool.and_eq_true] at h
    rw [lensOkF, h.1.1.2, lensOk_of_wf v h.1.2, lensOkF_of_wf (some n) r h.2]
    rfl
end

-- the concatenated pieces are the encoding for every value: the length limits only decide
-- whether the writer accepts the calls
mutual
theorem flatten_opsOf (v : Value) : (allPieces (opsOf v)).flatten = encode v := by
  cases v with
  | bool b => simp [opsOf, WOp.pieces, encode]
  | int i => simp [opsOf, WOp.pieces, encode, packInt_encInt]
  | dbl d => simp [opsOf, WOp.pieces, encode, leBytesM_eq_leBytes]
  | str s =>
    simp only [opsOf, allPieces_cons, allPieces_nil, List.append_nil, WOp.pieces, encode]
    exact blob_pieces_flatten 0x14 s
  | bytes s =>
    simp only [opsOf, allPieces_cons, allPieces_nil, List.append_nil, WOp.pieces, encode]
    exact blob_pieces_flatten 0x18 s
  | arr xs => simp [opsOf, WOp.pieces, encode, flatten_opsOfE xs]
  | obj fs => simp [opsOf, WOp.pieces, encode, flatten_opsOfF fs]
theorem flatten_opsOfE (xs : Elems) : (allPieces (opsOfE xs)).flatten = encElems xs := by
  cases xs with
  | nil => rfl
  | cons v r => simp [opsOfE, encElems, flatten_opsOf v, flatten_opsOfE r]
theorem flatten_opsOfF (fs : Fields) : (allPieces (opsOfF fs)).flatten = encFields fs := by
  cases fs with
  | nil => rfl
  | cons n v r =>
    simp only [opsOfF, encFields, allPieces_cons, allPieces_append, List.flatten_append, WOp.pieces,
      flatten_opsOf v, flatten_opsOfF r, blob_pieces_flatten 0x14 n]
end

theorem flatten_pieces_opsOfE' (xs : Elems) (h : lensOkE xs = true) : (allPieces (opsOfE xs)).flatten = encElems xs :=
  flatten_opsOfE xs
theorem flatten_pieces_opsOfF' (fs : Fields) (h : lensOkF fs = true) :
    (allPieces (opsOfF fs)).flatten = encFields fs :=
  flatten_opsOfF fs

theorem flatten_pieces_opsOfE (xs : Elems) (h : wfElems xs = true) : (allPieces (opsOfE xs)).flatten = encElems xs :=
  flatten_opsOfE xs
theorem flatten_pieces_opsOfF (prev : Option Bytes) (fs : Fields) (h : wfFields prev fs = true) :
    (allPieces (opsOfF fs)).flatten = encFields fs :=
  flatten_opsOfF fs

theorem blob_valid_of_le {s : List UInt8} (h : s.length ≤ INT32_MAX) : s.length ≤ 2147483647 := h

mutual
theorem valid_opsOf' (v : Value) (h : lensOk v = true) : ∀ op ∈ opsOf v, op.Valid := by
  cases v with
  | str s => exact List.forall_mem_singleton.mpr (blob_valid_of_le (of_decide_eq_true h))
  | bytes s => exact List.forall_mem_singleton.mpr (blob_valid_of_le (of_decide_eq_true h))
  | arr xs =>
    rw [opsOf, List.forall_mem_cons, List.forall_mem_append, List.forall_mem_singleton]
    exact ⟨trivial, valid_opsOfE' xs h, trivial⟩
  | obj fs =>
    rw [opsOf, List.forall_mem_cons, List.forall_mem_append, List.forall_mem_singleton]
    exact ⟨trivial, valid_opsOfF' fs h, trivial⟩
  | _ => exact List.forall_mem_singleton.mpr trivial
theorem valid_opsOfE' (xs : Elems) (h : lensOkE xs = true) : ∀ op ∈ opsOfE xs, op.Valid := by
  cases xs with
  | nil => exact fun _ hop => nomatch hop
  | cons v r =>
    rw [lensOkE, Bool.and_eq_true] at h
    rw [opsOfE, List.forall_mem_append]
    exact ⟨valid_opsOf' v h.1, valid_opsOfE' r h.2⟩
theorem valid_opsOfF' (fs : Fields) (h : lensOkF fs = true) : ∀ op ∈ opsOfF fs, op.Valid := by
  cases fs with
  | nil => exact fun _ hop => nomatch hop
  | cons n v r =>
    rw [lensOkF, Bool.and_eq_true, Bool.and_eq_true] at h
    rw [opsOfF, List.forall_mem_cons, List.forall_mem_append]
    exact ⟨blob_valid_of_le (of_decide_eq_true h.1.1), valid_opsOf' v h.1.2, valid_opsOfF' r h.2⟩
end
theorem valid_opsOf (v : Value) (h : wfValue v = true) : ∀ op ∈ opsOf v, op.Valid :=
  valid_opsOf' v (lensOk_of_wf v h)
theorem valid_opsOfE (xs : Elems) (h : wfElems xs = true) : ∀ op ∈ opsOfE xs, op.Valid :=
  valid_opsOfE' xs (lensOkE_of_wf xs h)
theorem valid_opsOfF (prev : Option Bytes) (fs : Fields) (h : wfFields prev fs = true) :
    ∀ op ∈ opsOfF fs, op.Valid :=
  valid_opsOfF' fs (lensOkF_of_wf prev fs h)

theorem run_init_eq (ops : List WOp) (cap : Nat) (m0 : Array UInt8) (hm : m0.size = cap)
    (hv : ∀ op ∈ ops, op.Valid) (hsz : totalLen (allPieces ops) < 2 ^ 64) (hcap : cap < 2 ^ 64) :
    (Writer.init m0 cap).1.run ops =
      { cap := cap, used := totalLen (allPieces ops), bufNull := false, fault := false,
        err := if totalLen (allPieces ops) ≤ cap then .none else .range,
        mem := storeAt m0 0 (fittedPieces cap 0 (allPieces ops)) } := by
  rw [run_eq_writes ops _ hv,
    writes_eq _ _ rfl rfl rfl hm (Nat.zero_le _) hcap (by show 0 + _ < two64; rw [Nat.zero_add]; exact hsz)]
  show Writer.mk cap (0 + totalLen (allPieces ops)) (if 0 + totalLen (allPieces ops) ≤ cap then .none else .range)
    false (storeAt m0 0 (fittedPieces cap 0 (allPieces ops))) false = _
  simp only [Nat.zero_add]

/-- what any sequence of valid calls leaves in an initialised writer over a buffer of exactly `cap`
    bytes (read out in Props/C04 `writer_run`); the bounds are the full `size_t` range -/
theorem writer_run64 (ops : List WOp) (cap : Nat) (m0 : Array UInt8) (hm : m0.size = cap)
    (hv : ∀ op ∈ ops, op.Valid) (hsz : totalLen (allPieces ops) < 2 ^ 64) (hcap : cap < 2 ^ 64) :
    let w := (Writer.init m0 cap).1.run ops
    w.fault = false ∧ w.mem.size = cap ∧ w.used = totalLen (allPieces ops) ∧
    (w.err = .range ↔ cap < totalLen (allPieces ops)) ∧ (w.err = .none ∨ w.err = .range) ∧
    w.mem.toList = fittedPieces cap 0 (allPieces ops) ++ m0.toList.drop (fittedPieces cap 0 (allPieces ops)).length := by
  intro w
  have hw : w = _ := run_init_eq ops cap m0 hm hv hsz hcap
  rw [hw]
  have hl := fittedPieces_length_le cap (allPieces ops) 0 (Nat.zero_le _)
  refine ⟨rfl, (storeAt_size _ _ _).trans hm, rfl, ?_, ?_, ?_⟩
  · by_cases h : totalLen (allPieces ops) ≤ cap
    · simp only [if_pos h]; constructor
      · intro e; cases e
      · intro hlt; omega
    · simp only [if_neg h, true_iff]; omega
  · dsimp only; split
    · exact .inl rfl
    · exact .inr rfl
  · have := storeAt_toList m0 0 (fittedPieces cap 0 (allPieces ops)) (by omega)
    rwa [List.take_zero, List.nil_append, Nat.zero_add] at this

theorem writer_run_fits (ops : List WOp) (cap : Nat) (m0 : Array UInt8) (hm : m0.size = cap)
    (hv : ∀ op ∈ ops, op.Valid) (hfit : totalLen (allPieces ops) ≤ cap) (hcap : cap < 2 ^ 64) :
    let w := (Writer.init m0 cap).1.run ops
    w.err = .none ∧ w.used = totalLen (allPieces ops) ∧
    w.mem.toList = (allPieces ops).flatten ++ m0.toList.drop (totalLen (allPieces ops)) := by
  intro w
  have hw : w = _ := run_init_eq ops cap m0 hm hv (by omega) hcap
  have hF : fittedPieces cap 0 (allPieces ops) = (allPieces ops).flatten := fittedPieces_all _ _ _ (by omega)
  have hl : (allPieces ops).flatten.length = totalLen (allPieces ops) := (totalLen_eq_flatten _).symm
  rw [hw, hF]
  refine ⟨if_pos hfit, rfl, ?_⟩
  have := storeAt_toList m0 0 (allPieces ops).flatten (by omega)
  rwa [List.take_zero, List.nil_append, Nat.zero_add, hl] at this
end Binson
