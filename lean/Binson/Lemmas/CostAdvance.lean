/-
  C16, tight form: the cursor `buffer_used` across ONE pass through the loop body of
  `_advance_parsing` and across one call of it, in every scan mode and for arbitrary bytes.
  The only backwards move in the code (`buffer_used -= bytes_consumed` in the lookup-overshoot
  branch) un-reads exactly the one name token read in the same iteration, so the cursor never
  moves backwards and the callbacks of a call are bounded by the bytes it advances over plus one.
-/
import Binson.Lemmas.Advance
namespace Binson

theorem cost_touchLvl_err (p : Parser) (i : Nat) : (p.touchLvl i).err = p.err := by
  rw [Parser.touchLvl_eq]

/-- **The un-read is exactly one name token.** For one pass through the loop body from a shaped,
    error-free parser, with `c` the classification of the token at the cursor (`c.p.used` is the
    furthest position this iteration reads up to): either nothing is un-read (the iteration leaves
    the cursor at or beyond `c.p.used`), or the iteration took the lookup-overshoot branch:
    the token was ONE string token occupying exactly the `c.bc = bytes_consumed` bytes from the
    cursor at the start of the iteration, `bytes_consumed` was not carried over from an earlier
    iteration, the new cursor IS the cursor at the start of the iteration, the call returns
    `false` with no error set and without a callback. -/
theorem iter_overshoot_unreads_one (st : LoopSt) (sn : Option (List UInt8)) (oa od : Nat)
    (h : Shape st.p) (he : st.p.err = .none) :
    (classify st.p st.bc).p.used ≤ (iter st sn oa od).1.p.used ∨
    ((classify st.p st.bc).tok = .string ∧
     (classify st.p st.bc).p.used = st.p.used + (classify st.p st.bc).bc ∧ 1 ≤ (classify st.p st.bc).bc ∧
     (iter st sn oa od).1.p.used = st.p.used ∧
     (iter st sn oa od).2 = .ret false ∧ (iter st sn oa od).1.p.err = .none ∧ (iter st sn oa od).1.ev = st.ev ∧
     overshoot (classify st.p st.bc).p (classify st.p st.bc).span sn = true) := by
  have k := iter_out st sn oa od h he
  generalize iter st sn oa od = r at k ⊢
  generalize classify st.p st.bc = c at k ⊢
  rcases k with ⟨_, _, _, _, e5⟩ | ⟨lv, tok, co, hob, k⟩
  · exact Or.inl (Nat.le_of_eq e5.symm)
  · rcases k.used with u | ⟨u, _⟩ | ⟨ht, u, e2, e3, e4, e5⟩
    · exact Or.inl (Nat.le_of_eq u.symm)
    · exact Or.inl (by rw [u]; exact Nat.le_succ _)
    · -- the field name was a string token, read in this iteration
      have hts : c.tok = .string := by
        rcases (objBlock_spec hob).2.2.2.2 with e | ⟨e, _⟩
        · exact absurd (e.symm.trans ht) co.notFieldName
        · exact e
      have hsc := co.sc (by rw [hts]; rfl)
      exact Or.inr ⟨hts, hsc.1, hsc.2.1, by rw [u, hsc.1]; omega, e2, e3, e4, e5⟩

theorem iter_used_mono (st : LoopSt) (sn : Option (List UInt8)) (oa od : Nat)
    (h : Shape st.p) (he : st.p.err = .none) :
    st.p.used ≤ (iter st sn oa od).1.p.used :=
  (iter_spec st sn oa od h he).mono

theorem advance_used_mono (p : Parser) (scan : Scan) (sn : Option (List UInt8)) (h : Shape p) :
    p.used ≤ (advance p scan sn).p.used :=
  (advance_spec p scan sn h).mono

theorem advance_cost_tight (p : Parser) (scan : Scan) (sn : Option (List UInt8)) (h : Shape p) :
    (advance p scan sn).ev.length + p.used ≤ (advance p scan sn).p.used + 1 :=
  (advance_spec p scan sn h).cost

/-- the same with the subtraction the property sentence uses -/
theorem advance_cost_tight' (p : Parser) (scan : Scan) (sn : Option (List UInt8)) (h : Shape p) :
    (advance p scan sn).ev.length ≤ ((advance p scan sn).p.used - p.used) + 1 := by
  have := advance_cost_tight p scan sn h
  have := advance_used_mono p scan sn h
  omega

def Parser.curFlags (p : Parser) : Flags := (p.getLvl p.lvlIdx).flags

theorem cost_arrBlock_value (lv : Level) (tok : Tok) (b : Bool) :
    ((arrBlock lv tok b (some .value)).2 = some .value ∨ (arrBlock lv tok b (some .value)).2 = none) ∧
    (¬ (tok = .objBegin ∨ tok = .arrBegin) → (arrBlock lv tok b (some .value)).1 = lv) ∧
    ((tok = .objBegin ∨ tok = .arrBegin) → (arrBlock lv tok b (some .value)).2 = none →
      lv.flags = .arr1 ∧ (arrBlock lv tok b (some .value)).1.flags = .arr2) ∧
    (lv.flags = .arr2 → (tok = .objBegin ∨ tok = .arrBegin) → (arrBlock lv tok b (some .value)).2 = some .value) := by
  rcases arrBlock_cases lv tok b (some .value) with ⟨_, e⟩ | ⟨_, _, ⟨h2, h3, e⟩ | ⟨h2, h3, e⟩ | ⟨h2, e⟩⟩ <;> rw [e]
  · exact ⟨Or.inl rfl, fun _ => rfl, (fun _ hc => nomatch hc), fun _ _ => rfl⟩
  · exact ⟨Or.inr rfl, fun hn => absurd h2 hn, fun _ _ => ⟨h3, rfl⟩, fun h4 => by rw [h4] at h3; cases h3⟩
  · exact ⟨Or.inl rfl, fun hn => absurd h2 hn, (fun _ hc => nomatch hc), fun _ _ => rfl⟩
  · exact ⟨Or.inr rfl, fun _ => rfl, fun hb => absurd hb h2, fun _ hb => absurd hb h2⟩

theorem cost_touchLvl_levels (p : Parser) (i : Nat) : (p.touchLvl i).levels = p.levels := by
  rw [Parser.touchLvl_eq]

/-- One pass through the loop body in VALUE mode, from a shaped error-free parser:
    * it never returns `true` directly;
    * if it stops the loop without having moved the cursor, it is the IN_ARRAY_1 → IN_ARRAY_2 toggle;
    * from IN_ARRAY_2: if it stops, the level (of the new cursor) is IN_ARRAY_2 again; if it
      continues, the mode is still VALUE. -/
theorem cost_iter_value (st : LoopSt) (sn : Option (List UInt8)) (oa od : Nat)
    (h : Shape st.p) (he : st.p.err = .none) (hs : st.scan = some .value) :
    (iter st sn oa od).2 ≠ .ret true ∧
    ((iter st sn oa od).2 = .stop → (iter st sn oa od).1.p.used = st.p.used →
        st.p.curFlags = .arr1 ∧ (iter st sn oa od).1.p.curFlags = .arr2) ∧
    (st.p.curFlags = .arr2 →
        ((iter st sn oa od).2 = .stop → (iter st sn oa od).1.p.curFlags = .arr2) ∧
        ((iter st sn oa od).2 = .cont → (iter st sn oa od).1.scan = some .value)) := by
  have k := iter_out st sn oa od h he
  generalize iter st sn oa od = r at k ⊢
  generalize classify st.p st.bc = c at k
  rcases k with ⟨e1, _⟩ | ⟨lv, tok, co, hob, k⟩
  · rw [e1]
    exact ⟨by decide, (fun h => nomatch h), fun _ => ⟨(fun h => nomatch h), (fun h => nomatch h)⟩⟩
  rw [hs] at k
  obtain ⟨oc1, _, oc2⟩ := objBlock_cases hob
  have hbe := objBlock_isBeginEnd hob
  obtain ⟨v1, v2, v3, v4⟩ := cost_arrBlock_value lv tok (decide (oa = lv.ad ∧ od = c.p.depth))
  generalize arrBlock lv tok (decide (oa = lv.ad ∧ od = c.p.depth)) (some .value) = ab at v1 v2 v3 v4 k
  obtain ⟨lv', scan'⟩ := ab
  simp only at v1 v2 v3 v4 k
  -- the level at the cursor: classification leaves its flags alone, the object block keeps an array state
  have hidx : c.p.lvlIdx = st.p.lvlIdx := by unfold Parser.lvlIdx; rw [co.frame.2.1]
  have hF0 : (c.p.getLvl c.p.lvlIdx).flags = st.p.curFlags := by rw [hidx, co.lvl]; rfl
  have harr2 : st.p.curFlags = .arr2 → lv = c.p.getLvl c.p.lvlIdx ∧ tok = c.tok :=
    fun hf => oc2 (by rw [hF0, hf]; rfl)
  have harr1 : lv.flags = .arr1 → st.p.curFlags = .arr1 := by
    intro hf
    rcases oc1 with e | e
    · rw [← hF0, ← e]; exact hf
    · rw [e] at hf; cases hf
  have curF : r.1.p.depth = c.p.depth → r.1.p.curFlags = (r.1.p.getLvl c.p.lvlIdx).flags := by
    intro hq; unfold Parser.curFlags Parser.lvlIdx; rw [hq]
  -- the ways the case can end, by what the array block left of the VALUE bit
  have hne : r.2 ≠ .ret true := by
    rcases k.out with e | ⟨_, e⟩ <;> rw [e]
    · decide
    · unfold proceed; split <;> decide
  have hnf : r.2 = .stop → tok ≠ .fieldName := by
    intro hst ht
    rcases k.out with e | ⟨_, e⟩ <;> rw [e] at hst
    · cases hst
    · rw [ht] at hst; cases hst
  have hgo : scan' = some .value → tok ≠ .fieldName → r.2 ≠ .ret false → r.2 = .cont ∧ r.1.scan = some .value := by
    intro hv hn hr
    have hk := (k.kept hr).2 hv hn
    rcases k.out with e | ⟨_, e⟩
    · exact absurd e hr
    · rw [hk, decide_eq_false hn] at e
      exact ⟨e, hk⟩
  have hend : scan' = none → tok ≠ .fieldName → r.2 ≠ .ret false →
      r.2 = .stop ∧ r.1.p.used = c.p.used ∧ r.1.p.depth = c.p.depth ∧ tok ≠ .objEnd ∧ tok ≠ .arrEnd ∧
      (lv'.flags = .arr2 → (r.1.p.getLvl c.p.lvlIdx).flags = .arr2) := by
    intro hv hn hr
    have hk := (k.kept hr).1 hv
    have hst : r.2 = .stop := by
      rcases k.out with e | ⟨_, e⟩
      · exact absurd e hr
      · rw [hk, decide_eq_false hn] at e; exact e
    rcases k.used with u | ⟨_, u⟩ | ⟨_, _, u, _⟩
    · obtain ⟨s1, s2, s3, _, s5⟩ := k.stay u hr
      exact ⟨hst, u, s1, s2, s3, fun hf => s5 hf hn⟩
    · exact absurd hv u
    · exact absurd u hr
  refine ⟨hne, fun hst hz => ?_, fun hf => ⟨fun hst => ?_, fun hc => ?_⟩⟩
  · have hr : r.2 ≠ .ret false := by rw [hst]; decide
    rcases v1 with hv | hv
    · have := (hgo hv (hnf hst) hr).1
      rw [hst] at this; cases this
    · obtain ⟨_, u, d, n1, n2, fl⟩ := hend hv (hnf hst) hr
      -- the cursor stood still over the whole iteration: a BEGIN token
      have hb : tok = .objBegin ∨ tok = .arrBegin := by
        cases hcb : c.tok.isBeginEnd
        · have := (co.sc hcb).1; have := (co.sc hcb).2.1; omega
        · rcases Tok.isBeginEnd_cases (hbe.trans hcb) with e | e | e | e
          · exact Or.inl e
          · exact absurd e n1
          · exact Or.inr e
          · exact absurd e n2
      obtain ⟨b1, b2⟩ := v3 hb hv
      exact ⟨harr1 b1, by rw [curF d]; exact fl b2⟩
  · have hr : r.2 ≠ .ret false := by rw [hst]; decide
    have hlv : lv.flags = .arr2 := by rw [(harr2 hf).1, hF0]; exact hf
    rcases v1 with hv | hv
    · have := (hgo hv (hnf hst) hr).1
      rw [hst] at this; cases this
    · obtain ⟨_, _, d, _, _, fl⟩ := hend hv (hnf hst) hr
      have hl : lv' = lv := v2 (fun hb => by have := v4 hlv hb; rw [hv] at this; cases this)
      rw [curF d]; exact fl (hl ▸ hlv)
  · have hr : r.2 ≠ .ret false := by rw [hc]; decide
    have hn : tok ≠ .fieldName := (harr2 hf).2 ▸ co.notFieldName
    rcases v1 with hv | hv
    · exact (hgo hv hn hr).2
    · have := (hend hv hn hr).1
      rw [hc] at this; cases this

end Binson
