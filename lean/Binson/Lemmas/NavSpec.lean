/-
  Layer 4: spec-side vocabulary of the navigation refinement. The reference cursor is
  described by the REMAINING children of every open container (`RFrame`), grouped by the state
  entry they share (`RLevel`: an object and the arrays nested directly in its current field);
  node offsets are counted from the end of the buffer, so they only depend on what remains.
-/
import Binson.Lemmas.Pass
import Binson.Lemmas.L0
import Binson.Spec.Cursor
namespace Binson

/-! ### `_cmp_name` as an order -/

theorem cmpBytes_neg_lt (a b : Bytes) : cmpBytes a b < 0 ↔ bytesLt a b = true := (cmpBytes_order a b).1
theorem cmpBytes_pos_lt (a b : Bytes) : cmpBytes a b > 0 ↔ bytesLt b a = true := (cmpBytes_order a b).2.2
theorem cmpBytes_eq_zero (a b : Bytes) : cmpBytes a b = 0 ↔ a = b := (cmpBytes_order a b).2.1

inductive RFrame
  | arr (xs : Elems)
  | obj (fs : Fields)

def RFrame.enc : RFrame → Bytes
  | .arr xs => encElems xs
  | .obj fs => encFields fs
def RFrame.endB : RFrame → UInt8
  | .arr _ => 0x43
  | .obj _ => 0x41
def RFrame.isObj : RFrame → Bool
  | .arr _ => false
  | .obj _ => true
def RFrame.nodes (off : Nat) : RFrame → List Node
  | .arr xs => annotateE off xs
  | .obj fs => annotateF off fs

/-- the container whose children are `f` (when none of them has been returned yet) -/
def RFrame.value : RFrame → Value
  | .arr xs => .arr xs
  | .obj fs => .obj fs

theorem RFrame.encode_value_length (f : RFrame) : (encode f.value).length = f.enc.length + 2 := by
  cases f <;> simp [RFrame.value, RFrame.enc, encode]

/-- the bytes from the first remaining child of the innermost container to the end of the document -/
def tailBytes : List RFrame → Bytes
  | [] => []
  | f :: r => f.enc ++ f.endB :: tailBytes r

/-- the cursor's frames, offsets taken from the end of a buffer of `total` bytes -/
def cframes (total : Nat) : List RFrame → List Frame
  | [] => []
  | f :: r => ⟨f.isObj, f.nodes (total - (tailBytes (f :: r)).length)⟩ :: cframes total r

/-- one state entry: the remaining fields of its object (`none`: the pseudo level of an array
    document), the name read last, and the remaining elements of the arrays open in the
    current field, innermost first -/
structure RLevel where
  prev : Option Bytes
  base : Option Fields
  arrs : List Elems

def RLevel.frames (L : RLevel) : List RFrame :=
  L.arrs.map RFrame.arr ++ (match L.base with | some fs => [RFrame.obj fs] | none => [])

def flat : List RLevel → List RFrame
  | [] => []
  | L :: r => L.frames ++ flat r

theorem flat_arr (pv : Option Bytes) (b : Option Fields) (xs : Elems) (ar : List Elems) (Ls : List RLevel) :
    flat (⟨pv, b, xs :: ar⟩ :: Ls) = RFrame.arr xs :: flat (⟨pv, b, ar⟩ :: Ls) := by
  simp [flat, RLevel.frames]

theorem flat_obj (pv : Option Bytes) (fs : Fields) (Ls : List RLevel) :
    flat (⟨pv, some fs, []⟩ :: Ls) = RFrame.obj fs :: flat Ls := by
  simp [flat, RLevel.frames]

def objCount (fr : List RFrame) : Nat := (fr.filter RFrame.isObj).length

theorem cframes_objCount (total : Nat) (fr : List RFrame) :
    ((cframes total fr).filter (·.isObj)).length = objCount fr := by
  induction fr with
  | nil => rfl
  | cons f r ih =>
    unfold objCount at ih ⊢
    simp only [cframes, List.filter_cons]
    cases f.isObj <;> simp [ih]

theorem annotate_item_start (nm : Option (Bytes × Span)) (off : Nat) (v : Value) : (annotate nm off v).item.start = off := by
  cases v <;> simp [annotate, Node.item]

theorem annotate_item_name (nm : Option (Bytes × Span)) (off : Nat) (v : Value) : (annotate nm off v).item.name = nm := by
  cases v <;> simp [annotate, Node.item]

theorem annotate_ty_off (nm nm' : Option (Bytes × Span)) (off off' : Nat) (v : Value) :
    (annotate nm off v).item.ty = (annotate nm' off' v).item.ty := by
  cases v <;> simp [annotate, Node.item]

theorem annotate_val_nm (nm nm' : Option (Bytes × Span)) (off : Nat) (v : Value) :
    (annotate nm off v).item.val = (annotate nm' off v).item.val ∧
    (annotate nm off v).item.payload = (annotate nm' off v).item.payload := by
  cases v <;> simp [annotate, Node.item]

theorem annotate_ty_obj (nm : Option (Bytes × Span)) (off : Nat) (fs : Fields) : (annotate nm off (.obj fs)).item.ty = .object := by
  simp [annotate, Node.item]
theorem annotate_ty_arr (nm : Option (Bytes × Span)) (off : Nat) (xs : Elems) : (annotate nm off (.arr xs)).item.ty = .array := by
  simp [annotate, Node.item]

theorem annotate_item_len (nm : Option (Bytes × Span)) (off : Nat) (v : Value) (hc : v.isContainer = true) :
    (annotate nm off v).item.len = (encode v).length := by
  cases v with
  | arr xs => simp [annotate, Node.item]
  | obj fs => simp [annotate, Node.item]
  | _ => cases hc

theorem annotate_children_obj (nm : Option (Bytes × Span)) (off : Nat) (fs : Fields) :
    (annotate nm off (.obj fs)).children = annotateF (off + 1) fs := by
  simp [annotate, Node.children]

theorem annotate_children_arr (nm : Option (Bytes × Span)) (off : Nat) (xs : Elems) :
    (annotate nm off (.arr xs)).children = annotateE (off + 1) xs := by
  simp [annotate, Node.children]

theorem annotate_children_value (nm : Option (Bytes × Span)) (off : Nat) (f : RFrame) :
    (annotate nm off f.value).children = f.nodes (off + 1) := by
  cases f <;> simp [RFrame.value, RFrame.nodes, annotate, Node.children]

theorem annotate_isObj_value (nm : Option (Bytes × Span)) (off : Nat) (f : RFrame) :
    ((annotate nm off f.value).item.ty == .object) = f.isObj := by
  cases f <;> simp [RFrame.value, RFrame.isObj, annotate, Node.item]

theorem annotate_ty_object {nm : Option (Bytes × Span)} {off : Nat} {v : Value} (h : (annotate nm off v).item.ty = .object) :
    ∃ fs, v = .obj fs := by
  cases v <;> simp [annotate, Node.item] at h ⊢

theorem annotate_ty_array {nm : Option (Bytes × Span)} {off : Nat} {v : Value} (h : (annotate nm off v).item.ty = .array) :
    ∃ xs, v = .arr xs := by
  cases v <;> simp [annotate, Node.item] at h ⊢

theorem annotate_isContainer (nm : Option (Bytes × Span)) (off : Nat) (v : Value) :
    ((annotate nm off v).item.ty == .object || (annotate nm off v).item.ty == .array) = v.isContainer := by
  cases v <;> simp [annotate, Node.item, Value.isContainer]

theorem annotate_ty_scalar {nm : Option (Bytes × Span)} {off : Nat} {v : Value} (hc : v.isContainer = false) :
    (annotate nm off v).item.ty ≠ .object ∧ (annotate nm off v).item.ty ≠ .array := by
  cases v <;> simp [annotate, Node.item, Value.isContainer] at hc ⊢

theorem annotateF_cons (off : Nat) (n : Bytes) (v : Value) (r : Fields) :
    annotateF off (.cons n v r) =
      annotate (some (n, ⟨off + hdrLen n.length, n.length⟩)) (off + hdrLen n.length + n.length) v ::
        annotateF (off + hdrLen n.length + n.length + (encode v).length) r := by
  simp [annotateF]

theorem annotateE_cons (off : Nat) (v : Value) (r : Elems) :
    annotateE off (.cons v r) = annotate none off v :: annotateE (off + (encode v).length) r := by
  simp [annotateE]

theorem encFields_cons_length (n : Bytes) (v : Value) (r : Fields) :
    (encFields (.cons n v r)).length = hdrLen n.length + n.length + (encode v).length + (encFields r).length := by
  simp [encFields, encStr_length, hdrLen]; omega

theorem encElems_cons_length (v : Value) (r : Elems) :
    (encElems (.cons v r)).length = (encode v).length + (encElems r).length := by
  simp [encElems]

theorem nameOf_annotate (n : Bytes) (s : Span) (off : Nat) (v : Value) : nameOf (annotate (some (n, s)) off v) = n := by
  unfold nameOf; rw [annotate_item_name]

/-- the fields a lookup of `nm` leaves in front of the cursor -/
def dropLt (nm : Bytes) : Fields → Fields
  | .nil => .nil
  | .cons n v r => if bytesLt n nm then dropLt nm r else .cons n v r

theorem dropWhile_annotateF (nm : Bytes) (total t : Nat) : ∀ (fs : Fields), (encFields fs).length + t ≤ total →
    (annotateF (total - ((encFields fs).length + t)) fs).dropWhile (fun x => bytesLt (nameOf x) nm) =
      annotateF (total - ((encFields (dropLt nm fs)).length + t)) (dropLt nm fs)
  | .nil, _ => by simp [annotateF, dropLt]
  | .cons n v r, h => by
    rw [annotateF_cons, List.dropWhile_cons, nameOf_annotate]
    rw [encFields_cons_length] at h
    by_cases hlt : bytesLt n nm = true
    · simp only [hlt, if_true, dropLt]
      have := dropWhile_annotateF nm total t r (by omega)
      rw [← this]
      congr 2
      rw [encFields_cons_length]; omega
    · have hf : bytesLt n nm = false := by simpa using hlt
      simp only [hf, dropLt, Bool.false_eq_true, if_false]
      rw [annotateF_cons]

theorem dropLt_length_le (nm : Bytes) : ∀ fs, (encFields (dropLt nm fs)).length ≤ (encFields fs).length
  | .nil => by simp [dropLt]
  | .cons n v r => by
    unfold dropLt
    split
    · have := dropLt_length_le nm r
      rw [encFields_cons_length]; omega
    · exact Nat.le_refl _

end Binson
