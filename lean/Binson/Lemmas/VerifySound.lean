/-
  Soundness of verify (property C02, the "only if" direction): if `init` accepts a buffer and
  `verify` then returns true, the buffer is the canonical encoding of a well-formed document
  of the right root kind that fits the depth configuration.

  `_advance_parsing(VERIFY)` preserves the invariant `Inv` like every other call (`advance_inv`).
  What VERIFY adds: its scan word never changes, so the loop never stops by the proceed test, and
  the body returns without an error only where the root container has just been closed
  (`Closed`) at the end of the buffer; there the invariant leaves acceptance only (`closed_accept`).
-/
import Binson.Lemmas.WalkRaw
import Binson.Lemmas.Stream
namespace Binson

/-- how VERIFY's loop body ends: it goes on in VERIFY mode, never stops, and returns with an
    error or at the closed root -/
def VerifyPost (r : LoopSt × Out) : Prop :=
  WalkPost r (fun _ s => s = some .verify) (fun _ => False) (fun q => q.err = .none → q.used = q.size ∧ Closed q)

theorem verify_dispatch (st : LoopSt) (q : Parser) (lv : Level) (tok : Tok) (span : Span) (bc oa od : Nat)
    (hq : Shape q) (he : q.err = .none) (hin : InBuf q lv span) :
    VerifyPost (dispatch st q lv q.lvlIdx (some .verify) tok span bc none oa od) := by
  generalize hr : dispatch st q lv q.lvlIdx (some .verify) tok span bc none oa od = r
  have hli := hq.lvlIdx_lt
  have failed : ∀ {m : Prop}, Failed q m r → VerifyPost r := fun F => .ret F.1 (fun h => absurd h F.2.1)
  cases tok with
  | objBegin =>
    rcases (caseObjBegin_full he hli hq.hcur hq.hlv hr).1 with F | ⟨_, _, h2, hs, _⟩ | ⟨g, _⟩
    · exact failed F
    · exact .cont h2 hs
    · cases g
  | objEnd =>
    rcases (caseObjEnd_full he hli hq.hcur (s' := some .verify) (by split <;> rfl) hr).1 with
      F | ⟨_, g, _⟩ | ⟨_, _, _, _, h2, hs, _⟩ | ⟨_, _, _, _, h2, _, _, hu, d, _⟩
    · exact failed F
    · rcases g with g | ⟨_, g⟩ <;> cases g
    · exact .cont h2 hs
    · exact .ret h2 (fun _ => ⟨hu, Or.inl d⟩)
  | fieldName =>
    rcases (caseFieldName_full he hli hq.hcur hin (s' := some .verify) (by split <;> rfl) hr).1 with F | ⟨_, _, g, _⟩ | ⟨_, h2, hs, _⟩
    · exact failed F
    · cases g
    · exact .cont h2 hs
  | arrBegin =>
    rcases (caseArrBegin_full he hli hq.hcur hr).1 with F | ⟨_, _, h2, hs, _⟩ | ⟨g, _⟩
    · exact failed F
    · exact .cont h2 hs
    · cases g
  | arrEnd =>
    obtain ⟨h, k, _⟩ := caseArrEnd_full he hli hq.hcur (s' := some .verify) (by split <;> rfl) hr
    rcases h with F | ⟨_, g, _⟩ | ⟨_, _, _, _, h2, hs, _⟩ | ⟨_, _, ha, hp, hd, h2, W, hu⟩
    · exact failed F
    · cases g
    · exact .cont h2 hs
    · -- the root array: its level is entry 0, and its array count has just become 0
      have h0 : q.lvlIdx = 0 := by unfold Parser.lvlIdx; rw [hd]; rfl
      refine .ret h2 (fun _ => ⟨hu, Or.inr ⟨k.frame.2.2.2.1.trans hp, W.depth.trans hd, ?_⟩⟩)
      rw [W.lvl, h0, if_pos rfl]
      show lv.ad - 1 = 0
      rw [ha]
  | string | boolean | double | integer | bytes | error =>
    rw [dispatch_scalar (by decide)] at hr
    rcases (caseScalar_full he hli hq.hcur hin.1 hr).1 with F | ⟨_, _, h2, hs, _⟩
    · exact failed F
    · exact .cont h2 hs

theorem verify_iter (st : LoopSt) (oa od : Nat) (hs : Shape st.p) (he : st.p.err = .none) (hv : st.scan = some .verify) :
    VerifyPost (iter st none oa od) := by
  refine walk_iter_post hs he (fun _ h h' => absurd h' h) (fun c lv tok hC _ hin => ?_)
  rw [hv] at hin ⊢
  rw [walk_arrBlock_scan_ne _ _ _ _ (by decide)]
  exact verify_dispatch _ _ _ _ _ _ _ _ hC.shape hC.err hin

/-- `_advance_parsing(VERIFY)` ends without an error only at the closed root -/
theorem advance_verify_closed (p : Parser) (hs : Shape p) (he : p.err = .none) (h : (advance p .verify none).p.err = .none) :
    (advance p .verify none).p.used = (advance p .verify none).p.size ∧ Closed (advance p .verify none).p := by
  obtain ⟨st', e, hq⟩ := advance_ind p hs he .verify none
    (fun st => Shape st.p ∧ st.p.err = .none ∧ st.scan = some .verify)
    (fun st _ => st.p.err = .none → st.p.used = st.p.size ∧ Closed st.p) ⟨hs, he, rfl⟩
    (fun st hI => by
      have W := verify_iter st (p.getLvl p.cur).ad p.depth hI.1 hI.2.1 hI.2.2
      have sp := iter_spec st none (p.getLvl p.cur).ad p.depth hI.1 hI.2.1
      exact ⟨fun hc => ⟨sp.shape, (sp.cont hc).1, W.1 hc⟩, fun hc => (W.2.1 hc).elim, fun b hb => (W.2.2 b hb).2⟩)
  rw [e] at h ⊢
  exact hq h

theorem verify_true_iff (p : Parser) : (verify p).2.1 = true ↔
    (reset p).2 = true ∧ (advance (reset p).1 .verify none).ret = false ∧ (advance (reset p).1 .verify none).p.err = .none := by
  unfold verify
  generalize reset p = r
  obtain ⟨q, ok⟩ := r
  cases ok with
  | false => simp
  | true =>
    simp only [Bool.not_true, Bool.false_eq_true, if_false, true_and]
    by_cases h : (advance q .verify none).ret = false ∧ (advance q .verify none).p.err = .none
    · simp [h]
    · simp only [h, iff_false]
      have : (decide ((advance q .verify none).ret = false) && decide ((advance q .verify none).p.err = .none)) = false := by
        simpa using h
      rw [this]
      simp

theorem verify_sound_fresh {W : Parser} {buf : Array UInt8} {t md : Nat} (hF : Fresh W buf t md) (hmd : md ≤ 255) (h2 : 2 ≤ buf.size)
    (ht : (t = 1 ∧ buf.getD 0 0 = 0x40 ∧ buf.getD (buf.size - 1) 0 = 0x41) ∨
          (t = 2 ∧ buf.getD 0 0 = 0x42 ∧ buf.getD (buf.size - 1) 0 = 0x43))
    (hv : (verify W).2.1 = true) : Accept buf md t := by
  obtain ⟨_, _, he⟩ := (verify_true_iff W).mp hv
  have F1 := (reset_fresh hF _ _ ht h2 rfl rfl).2
  have hI := advance_inv _ .verify none (F1.inv hmd h2 (ht.imp (fun c => ⟨c.1, c.2.1⟩) (fun c => ⟨c.1, c.2.1⟩)))
  obtain ⟨hu, hc⟩ := advance_verify_closed _ F1.shape F1.err he
  exact closed_accept_end hI h2 he hu hc

/-- C02, soundness: init + verify accept only canonical encodings of well-formed documents -/
theorem verify_sound (g : Parser) (ha : Alloc g) (hmd : g.maxDepth ≤ 255) (buf : Array UInt8) (hsz : buf.size < 2 ^ 63)
    (root : Root) (hi : (init g buf (rootNum root)).2 = true)
    (hv : (verify (init g buf (rootNum root)).1).2.1 = true) :
    ∃ v, wfDoc root g.maxDepth v = true ∧ encode v = buf.toList := by
  obtain ⟨h2, ht⟩ := init_accept g buf _ hi
  have hF := (init_fresh g ha buf _ _ _ ht h2 hsz rfl rfl).2
  exact (verify_sound_fresh hF hmd h2 ht hv).wfDoc

theorem verify_sound_enc (g : Parser) (ha : Alloc g) (hmd : g.maxDepth ≤ 255) (buf : Array UInt8) (hsz : buf.size < 2 ^ 63)
    (root : Root) (hi : (init g buf (rootNum root)).2 = true)
    (hv : (verify (init g buf (rootNum root)).1).2.1 = true) :
    ∃ v, wfDoc root g.maxDepth v = true ∧ buf = (encode v).toArray := by
  obtain ⟨v, hwf, henc⟩ := verify_sound g ha hmd buf hsz root hi hv
  exact ⟨v, hwf, by rw [henc]⟩

/-- C02: for a buffer accepted by `init`, verify returns true exactly for the canonical encodings
    of well-formed documents fitting the depth configuration -/
theorem verify_iff (g : Parser) (ha : Alloc g) (hmd : g.maxDepth ≤ 255) (buf : Array UInt8) (hsz : buf.size < 2 ^ 63) (root : Root) :
    ((init g buf (rootNum root)).2 = true ∧ (verify (init g buf (rootNum root)).1).2.1 = true) ↔
    ∃ v, wfDoc root g.maxDepth v = true ∧ encode v = buf.toList :=
  ⟨fun h => verify_sound g ha hmd buf hsz root h.1 h.2, verify_complete g ha hmd buf hsz root⟩

end Binson
