/-
  Layer 4: the rest of a container AT the originating level in the two LEAVE modes:
  every remaining child is consumed, containers among them skipped whole, up to the END token.
-/
import Binson.Lemmas.NavScalar
namespace Binson

theorem orig_value (v : Value) {st : LoopSt} {oa od : Nat} (hO : AtOrig st oa od)
    (hsc : st.scan = some .leaveObj ∨ st.scan = some .leaveArr) (rest : Bytes) (hrem : st.p.rem = encode v ++ rest)
    (hwf : wfValue v = true) (hfit : fits (st.p.maxDepth - st.p.depth) (255 - (st.p.getLvl st.p.lvlIdx).ad) v = true)
    (hctx : ValCtx (st.p.getLvl st.p.lvlIdx)) :
    ∃ st', Steps none oa od st st' ∧ st'.p.rem = rest ∧ AtOrig st' oa od ∧ st'.scan = st.scan ∧ Kept st st' ∧
      (st'.p.getLvl st.p.lvlIdx).name = (st.p.getLvl st.p.lvlIdx).name ∧
      ((st.p.getLvl st.p.lvlIdx).flags = .expValue → (st'.p.getLvl st.p.lvlIdx).flags = .expField) ∧
      ((st.p.getLvl st.p.lvlIdx).flags ≠ .expValue →
        (st'.p.getLvl st.p.lvlIdx).flags = .arr1 ∨ (st'.p.getLvl st.p.lvlIdx).flags = .arr2) := by
  have hcont : Cont st.scan := by
    rcases hsc with h | h
    · exact Or.inr (Or.inl h)
    · exact Or.inr (Or.inr (Or.inr h))
  have hnv : st.scan ≠ some .value := by rcases hsc with h | h <;> rw [h] <;> decide
  cases hc : v.isContainer with
  | true =>
    obtain ⟨st1, s1, r1, o1, c1, k1, n1, f1⟩ := skip_container v hc (sn := none) hO hcont _ hrem hwf hfit hctx (fun _ => hnv)
    refine ⟨st1, s1, r1, o1, c1, k1, n1, f1.1, fun hne => ?_⟩
    rcases hctx with ⟨h, _⟩ | ⟨h | h, _⟩
    · exact absurd h hne
    · exact f1.2.2 h
    · exact Or.inl (f1.2.1 h)
  | false =>
    obtain ⟨st1, i1, r1, c1, o1, k1, n1, f1, _⟩ := orig_scalar v hc (sn := none) hO _ hrem hwf hctx
    have hsa : scanAfter (st.p.getLvl st.p.lvlIdx) st.scan = st.scan := by
      unfold scanAfter; rw [clear_value_of_ne hnv]; split <;> rfl
    rw [hsa] at i1 c1
    rw [hcont.proceed_eq] at i1
    refine ⟨st1, Steps.one i1, r1, o1, c1, k1, n1, fun h => by rw [f1]; simp [afterFlags, h], fun hne => ?_⟩
    rw [f1, afterFlags, if_neg hne]
    rcases hctx with ⟨h, _⟩ | ⟨h, _⟩
    · exact absurd h hne
    · exact h

theorem wf_cons {pv : Option Bytes} {n : Bytes} {v : Value} {r : Fields} {d : Nat}
    (h : wfFields pv (.cons n v r) = true ∧ fitsF d (.cons n v r) = true) :
    nameAfter pv n = true ∧ n.length ≤ INT32_MAX ∧ wfValue v = true ∧ wfFields (some n) r = true ∧
    fits d 255 v = true ∧ fitsF d r = true := by
  obtain ⟨h1, h2⟩ := h
  have a : nameAfter pv n = true ∧ n.length ≤ INT32_MAX ∧ wfValue v = true ∧ wfFields (some n) r = true := by
    simpa [wfFields, and_assoc] using h1
  have b : fits d 255 v = true ∧ fitsF d r = true := by simpa [fitsF] using h2
  exact ⟨a.1, a.2.1, a.2.2.1, a.2.2.2, b.1, b.2⟩

/-- a field name at the originating level, not beyond the one looked for: read and stored; the level now
    expects its value -/
theorem orig_name {st : LoopSt} {sn : Option (List UInt8)} {oa od : Nat} (hO : AtOrig st oa od)
    (n : Bytes) (rest : Bytes) (hrem : st.p.rem = encStr 0x14 n ++ rest) (hn : n.length ≤ INT32_MAX)
    (hprev : nameAfter (prevName st.p) n = true) (hfl : (st.p.getLvl st.p.lvlIdx).flags = .expField)
    (hno : ∀ nm, sn = some nm → ¬ cmpBytes n nm > 0) :
    ∃ st1, iter st sn oa od = (st1, .cont) ∧ st1.p.rem = rest ∧ st1.scan = clear st.scan .value ∧ AtOrig st1 oa od ∧ Kept st st1 ∧
      st1.p.getLvl st1.p.lvlIdx = nameLevel (st.p.getLvl st.p.lvlIdx) ⟨st.p.used + 1 + intWidth (n.length : Int), n.length⟩ ∧
      st1.p.used = st.p.used + (1 + intWidth (n.length : Int) + n.length) ∧
      (∀ q : Parser, q.buf = st.p.buf → q.slice ⟨st.p.used + 1 + intWidth (n.length : Int), n.length⟩ = n) ∧
      st.p.used + (1 + intWidth (n.length : Int) + n.length) ≤ st.p.size := by
  have hsh := hO.shape
  obtain ⟨c1, c2, hfitn, hord⟩ := name_token hsh hO.err n rest hrem hn hprev
  have hnov : overshoot st.p ⟨st.p.used + 1 + intWidth (n.length : Int), n.length⟩ sn = false := by
    unfold overshoot
    cases sn with
    | none => rfl
    | some nm => simp only [c2 st.p rfl]; simpa using hno nm rfl
  obtain ⟨st1, i1, r1⟩ := iter_fieldName_store (sn := sn) (oa := oa) (od := od) hsh hO.err
    ⟨st.p.used + 1 + intWidth (n.length : Int), n.length⟩ _ _ (by simp only [Nat.add_assoc]) c1 (by simp only; omega) hfl hord
    (fun _ => hnov)
  rw [if_pos ⟨hO.oa, hO.od⟩] at r1
  obtain ⟨hO1, k1, l1⟩ := stepRes_keeps hO r1 rfl
  exact ⟨st1, i1, rem_of_frame r1.frame.2.1 r1.used hsh hrem (encStr_length _ _), r1.scan, hO1, k1, by rw [k1.lvlIdx]; exact l1,
    r1.used, c2, hfitn⟩

theorem orig_fields : (fs : Fields) → ∀ (st : LoopSt) (oa od : Nat) (rest : Bytes),
    AtOrig st oa od → st.scan = some .leaveObj → st.p.rem = encFields fs ++ rest → wfFields (prevName st.p) fs = true →
    (st.p.getLvl st.p.lvlIdx).flags = .expField → (st.p.getLvl st.p.lvlIdx).ad = 0 →
    fitsF (st.p.maxDepth - st.p.depth) fs = true →
    ∃ st', Steps none oa od st st' ∧ st'.p.rem = rest ∧ AtOrig st' oa od ∧ st'.scan = some .leaveObj ∧ Kept st st' ∧
      (st'.p.getLvl st.p.lvlIdx).flags = .expField
  | .nil, st, oa, od, rest, hO, hsc, hrem, _, hfl, _, _ =>
    ⟨st, Steps.refl _ _ _ _, by simpa [encFields] using hrem, hO, hsc, Kept.refl _, hfl⟩
  | .cons n v r, st, oa, od, rest, hO, hsc, hrem, hwf, hfl, had, hfit => by
    obtain ⟨w1, w2, w3, w4, w5, w6⟩ := wf_cons ⟨hwf, hfit⟩
    have hrem' : st.p.rem = encStr 0x14 n ++ (encode v ++ (encFields r ++ rest)) := by simpa [encFields] using hrem
    obtain ⟨st1, i1, hr1, c1, hO1, k1, l1, _, c2, _⟩ := orig_name (sn := none) hO n _ hrem' w2 w1 hfl (fun _ h => nomatch h)
    rw [hsc] at c1
    have hi1 := k1.lvlIdx
    have hl1a : (st1.p.getLvl st1.p.lvlIdx).ad = 0 := by rw [l1]; exact had
    obtain ⟨st2, s2, r2, hO2, c2', k2, n2, f2, _⟩ := orig_value v hO1 (Or.inl c1) _ hr1 w3
      (by rw [k1.depth, k1.frame.2.2.1, hl1a]; exact w5) (Or.inl ⟨by rw [l1]; rfl, hl1a⟩)
    rw [c1] at c2'
    have f2 := f2 (by rw [l1]; rfl)
    have hi2 := k2.lvlIdx
    obtain ⟨st3, s3, r3, hO3, c3, k3, f3⟩ := orig_fields r st2 oa od rest hO2 c2' r2
      (by
        unfold prevName
        rw [hi2, n2, l1]
        show wfFields (some (st2.p.slice _)) r = true
        rw [c2 st2.p (k1.frame.trans k2.frame).2.1]; exact w4)
      (by rw [hi2]; exact f2) (by rw [hi2, k2.ad]; exact hl1a)
      (by rw [k2.depth, k1.depth, k2.frame.2.2.1, k1.frame.2.2.1]; exact w6)
    refine ⟨st3, (Steps.one i1).trans (s2.trans s3), r3, hO3, c3, k1.trans (k2.trans k3), ?_⟩
    have := f3; rw [hi2, hi1] at this; exact this

theorem orig_elems : (xs : Elems) → ∀ (st : LoopSt) (oa od : Nat) (rest : Bytes),
    AtOrig st oa od → st.scan = some .leaveArr → st.p.rem = encElems xs ++ rest → wfElems xs = true →
    (((st.p.getLvl st.p.lvlIdx).flags = .arr1 ∨ (st.p.getLvl st.p.lvlIdx).flags = .arr2) ∧ 1 ≤ (st.p.getLvl st.p.lvlIdx).ad) →
    fitsE (st.p.maxDepth - st.p.depth) (255 - (st.p.getLvl st.p.lvlIdx).ad) xs = true →
    ∃ st', Steps none oa od st st' ∧ st'.p.rem = rest ∧ AtOrig st' oa od ∧ st'.scan = some .leaveArr ∧ Kept st st' ∧
      (st'.p.getLvl st.p.lvlIdx).name = (st.p.getLvl st.p.lvlIdx).name ∧
      ((st'.p.getLvl st.p.lvlIdx).flags = .arr1 ∨ (st'.p.getLvl st.p.lvlIdx).flags = .arr2)
  | .nil, st, oa, od, rest, hO, hsc, hrem, _, hctx, _ =>
    ⟨st, Steps.refl _ _ _ _, by simpa [encElems] using hrem, hO, hsc, Kept.refl _, rfl, hctx.1⟩
  | .cons v r, st, oa, od, rest, hO, hsc, hrem, hwf, hctx, hfit => by
    have hwf' : wfValue v = true ∧ wfElems r = true := by simpa [wfElems] using hwf
    have hfit' : fits (st.p.maxDepth - st.p.depth) (255 - (st.p.getLvl st.p.lvlIdx).ad) v = true ∧
        fitsE (st.p.maxDepth - st.p.depth) (255 - (st.p.getLvl st.p.lvlIdx).ad) r = true := by simpa [fitsE] using hfit
    have hrem' : st.p.rem = encode v ++ (encElems r ++ rest) := by simpa [encElems] using hrem
    obtain ⟨st1, s1, r1, hO1, c1, k1, n1, _, f1⟩ := orig_value v hO (Or.inr hsc) _ hrem' hwf'.1 hfit'.1 (Or.inr hctx)
    rw [hsc] at c1
    have f1 := f1 (by rcases hctx.1 with h | h <;> rw [h] <;> decide)
    have hi1 := k1.lvlIdx
    obtain ⟨st2, s2, r2, hO2, c2, k2, n2, f2⟩ := orig_elems r st1 oa od rest hO1 c1 r1 hwf'.2
      ⟨by rw [hi1]; exact f1, by rw [hi1, k1.ad]; exact hctx.2⟩
      (by rw [k1.depth, k1.frame.2.2.1, hi1, k1.ad]; exact hfit'.2)
    refine ⟨st2, s1.trans s2, r2, hO2, c2, k1.trans k2, ?_, ?_⟩
    · have := n2; rw [hi1] at this; rw [this, n1]
    · have := f2; rw [hi1] at this; exact this

end Binson
