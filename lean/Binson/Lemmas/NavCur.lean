/-
  Layer 4: the reference cursor's steps, computed on cursors given by remaining children
  (`cframes`), with the offset arithmetic discharged here once.
-/
import Binson.Lemmas.NavInv
namespace Binson

theorem tailBytes_cons_length (f : RFrame) (r : List RFrame) :
    (tailBytes (f :: r)).length = f.enc.length + 1 + (tailBytes r).length := by
  simp [tailBytes]; omega

/-- the cursor over remaining children `fr` in a buffer of `total` bytes -/
def mkCur (ar : Bool) (total : Nat) (fr : List RFrame) (cur : Option Node) : Cursor :=
  { arrayRoot := ar, root := none, frames := cframes total fr, cur := cur, done := false }

theorem step_obj_nil (ar : Bool) (total : Nat) (pv : Option Bytes) (Ls : List RLevel) (cur : Option Node) (op : COp)
    (hop : op = .next ∨ ∃ nm, op = .field nm) :
    (mkCur ar total (flat (⟨pv, some .nil, []⟩ :: Ls)) cur).step op =
      (mkCur ar total (flat (⟨pv, some .nil, []⟩ :: Ls)) none, ⟨false, none, none⟩) := by
  rcases hop with rfl | ⟨nm, rfl⟩ <;> simp [flat_obj, mkCur, Cursor.step, cframes, RFrame.nodes, annotateF]

theorem step_next_arr_nil (ar : Bool) (total : Nat) (pv : Option Bytes) (b : Option Fields) (as : List Elems) (Ls : List RLevel)
    (cur : Option Node) :
    (mkCur ar total (flat (⟨pv, b, .nil :: as⟩ :: Ls)) cur).step .next =
      (mkCur ar total (flat (⟨pv, b, .nil :: as⟩ :: Ls)) none, ⟨false, none, none⟩) := by
  simp [flat_arr, mkCur, Cursor.step, cframes, RFrame.nodes, annotateE]

/-- the node `next` returns inside an object whose remaining fields start `o` bytes into the buffer -/
def fieldNode (o : Nat) (n : Bytes) (v : Value) : Node :=
  annotate (some (n, ⟨o + hdrLen n.length, n.length⟩)) (o + hdrLen n.length + n.length) v

theorem nodes_obj_cons (total : Nat) (n : Bytes) (v : Value) (r : Fields) (rest : List RFrame)
    (hle : (tailBytes (RFrame.obj (.cons n v r) :: rest)).length ≤ total) :
    (RFrame.obj (.cons n v r)).nodes (total - (tailBytes (RFrame.obj (.cons n v r) :: rest)).length) =
      fieldNode (total - (tailBytes (RFrame.obj (.cons n v r) :: rest)).length) n v ::
        (RFrame.obj r).nodes (total - (tailBytes (RFrame.obj r :: rest)).length) := by
  have h1 := tailBytes_cons_length (RFrame.obj (.cons n v r)) rest
  have h2 := tailBytes_cons_length (RFrame.obj r) rest
  have h3 := encFields_cons_length n v r
  simp only [RFrame.enc] at h1 h2
  have hoff : total - (tailBytes (RFrame.obj (.cons n v r) :: rest)).length + hdrLen n.length + n.length + (encode v).length =
      total - (tailBytes (RFrame.obj r :: rest)).length := by omega
  simp only [RFrame.nodes, annotateF_cons, fieldNode, hoff]

theorem nodes_arr_cons (total : Nat) (v : Value) (r : Elems) (rest : List RFrame)
    (hle : (tailBytes (RFrame.arr (.cons v r) :: rest)).length ≤ total) :
    (RFrame.arr (.cons v r)).nodes (total - (tailBytes (RFrame.arr (.cons v r) :: rest)).length) =
      annotate none (total - (tailBytes (RFrame.arr (.cons v r) :: rest)).length) v ::
        (RFrame.arr r).nodes (total - (tailBytes (RFrame.arr r :: rest)).length) := by
  have h1 := tailBytes_cons_length (RFrame.arr (.cons v r)) rest
  have h2 := tailBytes_cons_length (RFrame.arr r) rest
  have h3 := encElems_cons_length v r
  simp only [RFrame.enc] at h1 h2
  have hoff : total - (tailBytes (RFrame.arr (.cons v r) :: rest)).length + (encode v).length =
      total - (tailBytes (RFrame.arr r :: rest)).length := by omega
  simp only [RFrame.nodes, annotateE_cons, hoff]

theorem step_obj_cons (ar : Bool) (total : Nat) (pv : Option Bytes) (n : Bytes) (v : Value) (r : Fields) (Ls : List RLevel)
    (cur : Option Node) (op : COp) (hop : op = .next ∨ op = .field n)
    (hle : (tailBytes (flat (⟨pv, some (.cons n v r), []⟩ :: Ls))).length ≤ total) :
    (mkCur ar total (flat (⟨pv, some (.cons n v r), []⟩ :: Ls)) cur).step op =
      (mkCur ar total (flat (⟨some n, some r, []⟩ :: Ls))
        (some (fieldNode (total - (tailBytes (flat (⟨pv, some (.cons n v r), []⟩ :: Ls))).length) n v)),
       ⟨true, some (fieldNode (total - (tailBytes (flat (⟨pv, some (.cons n v r), []⟩ :: Ls))).length) n v).item, none⟩) := by
  rw [flat_obj] at hle
  rcases hop with rfl | rfl
  · simp only [flat_obj, mkCur, Cursor.step, cframes, nodes_obj_cons total n v r (flat Ls) hle, RFrame.isObj]
  · simp only [flat_obj, mkCur, Cursor.step, cframes, nodes_obj_cons total n v r (flat Ls) hle, RFrame.isObj, List.dropWhile_cons,
      fieldNode, nameOf_annotate, bytesLt_irrefl, Bool.false_eq_true, if_false, if_true]

theorem step_next_arr_cons (ar : Bool) (total : Nat) (pv : Option Bytes) (b : Option Fields) (v : Value) (r : Elems)
    (as : List Elems) (Ls : List RLevel) (cur : Option Node)
    (hle : (tailBytes (flat (⟨pv, b, .cons v r :: as⟩ :: Ls))).length ≤ total) :
    (mkCur ar total (flat (⟨pv, b, .cons v r :: as⟩ :: Ls)) cur).step .next =
      (mkCur ar total (flat (⟨pv, b, r :: as⟩ :: Ls))
        (some (annotate none (total - (tailBytes (flat (⟨pv, b, .cons v r :: as⟩ :: Ls))).length) v)),
       ⟨true, some (annotate none (total - (tailBytes (flat (⟨pv, b, .cons v r :: as⟩ :: Ls))).length) v).item, none⟩) := by
  rw [flat_arr] at hle
  simp only [flat_arr, mkCur, Cursor.step, cframes, nodes_arr_cons total v r _ hle, RFrame.isObj]

/-- entering the pending container, whose children are `g`, that starts at offset `o` -/
theorem step_enter (ar : Bool) (total : Nat) (fr : List RFrame) (hne : fr ≠ []) (nm : Option (Bytes × Span)) (o : Nat) (g : RFrame)
    (op : COp) (hop : op = .enterObj ∨ op = .enterArr) (ho : o + 1 + (tailBytes (g :: fr)).length = total) :
    (mkCur ar total fr (some (annotate nm o g.value))).step op = (mkCur ar total (g :: fr) none, ⟨true, none, none⟩) := by
  obtain ⟨f, fr', rfl⟩ := List.exists_cons_of_ne_nil hne
  have hoff : total - (tailBytes (g :: f :: fr')).length = o + 1 := by omega
  rcases hop with rfl | rfl <;>
    simp only [mkCur, Cursor.step, Cursor.pending, cframes, hoff, annotate_children_value, annotate_isObj_value]

theorem step_start (root : Root) (g : RFrame) (total : Nat) (op : COp) (hop : op = .enterObj ∨ op = .enterArr)
    (ht : total = (encode g.value).length) :
    (Cursor.start root g.value).step op = (mkCur (decide (root = .array)) total [g] none, ⟨true, none, none⟩) := by
  have hoff : total - (tailBytes [g]).length = 0 + 1 := by
    rw [ht, g.encode_value_length, tailBytes_cons_length]
    simp [tailBytes]
  rcases hop with rfl | rfl <;>
    simp only [Cursor.start, Cursor.step, Cursor.pending, mkCur, cframes, hoff, Bool.false_eq_true, if_false,
      annotate_children_value, annotate_isObj_value]

theorem allowed_enter_obj (ar : Bool) (total : Nat) (f : RFrame) (fr : List RFrame) (n : Node) :
    (mkCur ar total (f :: fr) (some n)).allowed .enterObj = (n.item.ty == .object) := by
  simp [mkCur, Cursor.allowed, Cursor.pending, cframes]

theorem allowed_enter_arr (ar : Bool) (total : Nat) (f : RFrame) (fr : List RFrame) (n : Node) :
    (mkCur ar total (f :: fr) (some n)).allowed .enterArr = (n.item.ty == .array) := by
  simp [mkCur, Cursor.allowed, Cursor.pending, cframes]

theorem allowed_enter_none (ar : Bool) (total : Nat) (f : RFrame) (fr : List RFrame) (op : COp) (h : op = .enterObj ∨ op = .enterArr) :
    (mkCur ar total (f :: fr) none).allowed op = false := by
  rcases h with rfl | rfl <;> simp [mkCur, Cursor.allowed, Cursor.pending, cframes]

theorem step_leave (ar : Bool) (total : Nat) (f : RFrame) (fr : List RFrame) (cur : Option Node) (op : COp)
    (h : op = .leaveObj ∨ op = .leaveArr) :
    (mkCur ar total (f :: fr) cur).step op =
      ({ arrayRoot := ar, root := none, frames := cframes total fr, cur := none, done := (cframes total fr).isEmpty }, ⟨true, none, none⟩) := by
  rcases h with rfl | rfl <;> simp [mkCur, Cursor.step, cframes]

theorem allowed_leave_obj (ar : Bool) (total : Nat) (f : RFrame) (fr : List RFrame) (cur : Option Node) :
    (mkCur ar total (f :: fr) cur).allowed .leaveObj = f.isObj := by
  simp [mkCur, Cursor.allowed, cframes]

theorem allowed_leave_arr (ar : Bool) (total : Nat) (f : RFrame) (fr : List RFrame) (cur : Option Node) :
    (mkCur ar total (f :: fr) cur).allowed .leaveArr = !f.isObj := by
  simp [mkCur, Cursor.allowed, cframes]

theorem allowed_field (ar : Bool) (total : Nat) (f : RFrame) (fr : List RFrame) (cur : Option Node) (nm : Bytes) :
    (mkCur ar total (f :: fr) cur).allowed (.field nm) = f.isObj := by
  simp [mkCur, Cursor.allowed, cframes]

theorem allowed_raw (ar : Bool) (total : Nat) (f : RFrame) (fr : List RFrame) (cur : Option Node) :
    (mkCur ar total (f :: fr) cur).allowed .raw = cur.isSome := by
  simp [mkCur, Cursor.allowed, cframes]

theorem cframes_isEmpty (total : Nat) (fr : List RFrame) : (cframes total fr).isEmpty = fr.isEmpty := by
  cases fr <;> rfl

theorem step_raw_container (ar : Bool) (total : Nat) (fr : List RFrame) (nm : Option (Bytes × Span)) (o : Nat) (v : Value)
    (hc : v.isContainer = true) :
    (mkCur ar total fr (some (annotate nm o v))).step .raw =
      (mkCur ar total fr none, ⟨true, none, some ⟨o, (encode v).length⟩⟩) := by
  have h1 := annotate_isContainer nm o v
  rw [hc] at h1
  simp only [mkCur, Cursor.step, h1, if_true, annotate_item_start, annotate_item_len nm o v hc]

theorem step_raw_scalar (ar : Bool) (total : Nat) (fr : List RFrame) (n : Node)
    (h1 : n.item.ty ≠ .object) (h2 : n.item.ty ≠ .array) :
    (mkCur ar total fr (some n)).step .raw = (mkCur ar total fr (some n), ⟨false, none, none⟩) := by
  simp [mkCur, Cursor.step, h1, h2]

theorem step_field_over (ar : Bool) (total : Nat) (pv : Option Bytes) (n : Bytes) (v : Value) (r : Fields) (Ls : List RLevel)
    (cur : Option Node) (nm : Bytes) (hlt : bytesLt n nm = false) (hne : n ≠ nm) :
    (mkCur ar total (flat (⟨pv, some (.cons n v r), []⟩ :: Ls)) cur).step (.field nm) =
      (mkCur ar total (flat (⟨pv, some (.cons n v r), []⟩ :: Ls)) none, ⟨false, none, none⟩) := by
  simp only [flat_obj, mkCur, Cursor.step, cframes, RFrame.nodes, RFrame.isObj, annotateF_cons, List.dropWhile_cons,
    nameOf_annotate, hlt, Bool.false_eq_true, if_false, hne]

theorem step_field_skip (ar : Bool) (total : Nat) (pv : Option Bytes) (n : Bytes) (v : Value) (r : Fields) (Ls : List RLevel)
    (cur cur' : Option Node) (nm : Bytes) (hlt : bytesLt n nm = true)
    (hle : (tailBytes (flat (⟨pv, some (.cons n v r), []⟩ :: Ls))).length ≤ total) :
    (mkCur ar total (flat (⟨pv, some (.cons n v r), []⟩ :: Ls)) cur).step (.field nm) =
      (mkCur ar total (flat (⟨some n, some r, []⟩ :: Ls)) cur').step (.field nm) := by
  rw [flat_obj] at hle
  simp only [flat_obj, mkCur, Cursor.step, cframes, nodes_obj_cons total n v r (flat Ls) hle, RFrame.isObj, List.dropWhile_cons,
    fieldNode, nameOf_annotate, hlt, if_true]

end Binson
