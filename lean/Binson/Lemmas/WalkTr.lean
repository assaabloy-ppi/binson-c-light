/-
  Traversal programs: the decode->encode transcription (`transcribeValue` /
  `transcribeItems` of Model/Transcribe.lean) along a descent over a value issues exactly the
  writer calls `opsOf v` (the C05 vocabulary); hence so it does on the encoding of a well-formed
  document.
-/
import Binson.Lemmas.WalkDes
import Binson.Lemmas.CppSerRun
import Binson.Model.Transcribe
namespace Binson

theorem walk_run_cons (w : Writer) (op : WOp) (ops : List WOp) : w.run (op :: ops) = ((w.step op).1).run ops := rfl
theorem walk_run_nil (w : Writer) : w.run [] = w := rfl
theorem walk_run_one (w : Writer) (op : WOp) : w.run [op] = (w.step op).1 := rfl
theorem walk_run_snoc (w : Writer) (ops : List WOp) (op : WOp) : w.run (ops ++ [op]) = ((w.run ops).step op).1 := by
  rw [run_append]; rfl

mutual
theorem transcribeValue_descent (v : Value) (f : Nat) {p q : Parser} (w : Writer) (hfu : tokens v ≤ f) (h : Descent p q v) :
    transcribeValue f p w = (q, w.run (opsOf v), true) := by
  have hpos := walk_tokens_pos v
  obtain ⟨f, rfl⟩ : ∃ f', f = f' + 1 := ⟨f - 1, by omega⟩
  rw [transcribeValue]
  cases v with
  | bool b | int b | dbl b =>
    obtain ⟨ht, hb, rfl⟩ := h
    simp only [ht, hb, opsOf, walk_run_one]
  | str s | bytes s =>
    obtain ⟨ht, ⟨sp, hs, hp⟩, rfl⟩ := h
    simp only [ht, hs, hp, opsOf, walk_run_one]
  | obj fs =>
    obtain ⟨ht, g1, p2, hD, l1, rfl⟩ := h
    have d1 := transcribeFields_descent fs f (w.step .objBegin).1 (by simp only [tokens] at hfu; omega) hD
    simp [ht, g1, d1, l1, opsOf, walk_run_snoc]
  | arr xs =>
    obtain ⟨ht, g1, p2, hD, l1, rfl⟩ := h
    have d1 := transcribeElems_descent xs f (w.step .arrBegin).1 (by simp only [tokens] at hfu; omega) hD
    simp [ht, g1, d1, l1, opsOf, walk_run_snoc]
theorem transcribeFields_descent (fs : Fields) (f : Nat) {p q : Parser} (w : Writer) (hfu : tokensF fs + 1 ≤ f)
    (h : DescentF p q fs) : transcribeItems f p w true = (q, w.run (opsOfF fs), true) := by
  obtain ⟨f, rfl⟩ : ∃ f', f = f' + 1 := ⟨f - 1, by omega⟩
  rw [transcribeItems]
  cases fs with
  | nil =>
    obtain ⟨n1, n2, rfl⟩ := h
    simp [n1, n2, opsOfF]
  | cons n v r =>
    obtain ⟨n1, n2, ⟨s, gn1, gn2⟩, p2, hD, hD'⟩ := h
    have d1 := transcribeValue_descent v f (w.step (.str n)).1 (by simp only [tokensF] at hfu; omega) hD
    have e1 := transcribeFields_descent r f ((w.step (.str n)).1.run (opsOf v)) (by simp only [tokensF] at hfu; omega) hD'
    simp [n1, gn1, gn2, d1, e1, opsOfF, run_append]
theorem transcribeElems_descent (xs : Elems) (f : Nat) {p q : Parser} (w : Writer) (hfu : tokensE xs + 1 ≤ f)
    (h : DescentE p q xs) : transcribeItems f p w false = (q, w.run (opsOfE xs), true) := by
  obtain ⟨f, rfl⟩ : ∃ f', f = f' + 1 := ⟨f - 1, by omega⟩
  rw [transcribeItems]
  cases xs with
  | nil =>
    obtain ⟨n1, n2, rfl⟩ := h
    simp [n1, n2, opsOfE]
  | cons v r =>
    obtain ⟨n1, n2, p2, hD, hD'⟩ := h
    have hpos := walk_tokens_pos v
    have d1 := transcribeValue_descent v f w (by simp only [tokensE] at hfu; omega) hD
    have e1 := transcribeElems_descent r f (w.run (opsOf v)) (by simp only [tokensE] at hfu; omega) hD'
    simp [n1, d1, e1, opsOfE, run_append]
end

theorem walk_trValue (v : Value) (f : Nat) (p : Parser) (c : Cursor) (w : Writer) (nm : Option (Bytes × Span)) (off : Nat)
    (hfu : tokens v ≤ f) (hA : Agree p c) (fr0 : Frame) (fr : List Frame) (hfr : c.frames = fr0 :: fr)
    (hcur : c.cur = some (annotate nm off v)) (hm : ItemMatches p (annotate nm off v).item) :
    ∃ p' c', transcribeValue f p w = (p', w.run (opsOf v), true) ∧ Agree p' c' ∧ c'.frames = c.frames := by
  obtain ⟨q, c', hD, hA', hf'⟩ := walk_descent v hA hfr hcur hm
  exact ⟨q, c', transcribeValue_descent v f w hfu hD, hA', hf'⟩

end Binson
