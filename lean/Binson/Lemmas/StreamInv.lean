/-
  C08: the invariant of the parser object BETWEEN loop iterations and between calls,
  for every scan mode: the levels mirror a zipper context of the bytes consumed so far (`ZG`;
  `Z` of Lemmas/VerifySoundInv.lean is the same with the scan word fixed to VERIFY), the
  not-yet-entered state (`ZF`), and the outcome `Res` of a pass through the loop body.
-/
import Binson.Lemmas.StreamTok
import Binson.Lemmas.VerifySoundInv
import Binson.Lemmas.StreamDefs
namespace Binson

/-- the levels mirror a zipper context `gs` of the bytes consumed so far (any scan mode) -/
structure ZG (buf : Array UInt8) (md t : Nat) (p : Parser) (gs : List Grp) : Prop where
  shape : Shape p
  err : p.err = .none
  hbuf : p.buf = buf
  hmd : p.maxDepth = md
  md255 : md ≤ 255
  hpt : p.ptype = t
  t12 : t = 1 ∨ t = 2
  depth : p.depth = gs.length
  ne : gs ≠ []
  zeros : ∀ i, p.depth ≤ i → p.getLvl i = Level.zero
  mirror : Mirror buf md t p.getLvl gs true
  bytes : buf.toList = encGs gs ++ p.rem

structure GTop (buf : Array UInt8) (md t : Nat) (p : Parser) (g : Grp) (rest : List Grp) : Prop where
  idx : p.lvlIdx = rest.length
  dep : p.depth = rest.length + 1
  lv : LvOk buf (p.getLvl rest.length) g true
  ok : GrpOk (md - (rest.length + 1)) g
  virt : g.virt = true ↔ (rest = [] ∧ t = 2)
  low : Mirror buf md t p.getLvl rest false
  room : rest.length + 1 ≤ md

theorem ZG.top {buf : Array UInt8} {md t : Nat} {p : Parser} {g : Grp} {rest : List Grp} (hZ : ZG buf md t p (g :: rest)) :
    GTop buf md t p g rest := by
  have hd : p.depth = rest.length + 1 := by rw [hZ.depth]; simp
  obtain ⟨h1, h2, h3, h4⟩ := hZ.mirror
  refine ⟨?_, hd, h1, h2, h3, h4, ?_⟩
  · rw [Parser.lvlIdx_of_pos (by omega), hd]; simp
  · have := hZ.shape.hdp; rw [hZ.hmd, hd] at this; exact this

/-- the root container has not been entered: nothing consumed, `[`/`{` of the right kind ahead -/
structure ZF (buf : Array UInt8) (md t : Nat) (p : Parser) : Prop where
  shape : Shape p
  err : p.err = .none
  hbuf : p.buf = buf
  hmd : p.maxDepth = md
  md255 : md ≤ 255
  hpt : p.ptype = t
  root : (t = 1 ∧ ∃ rs, p.rem = 0x40 :: rs) ∨ (t = 2 ∧ ∃ rs, p.rem = 0x42 :: rs)
  depth : p.depth = t - 1
  used : p.used = 0
  flags0 : (p.getLvl 0).flags = .undef
  ad0 : (p.getLvl 0).ad = 0
  name0 : (p.getLvl 0).name = none
  zeros : ∀ i, 1 ≤ i → p.getLvl i = Level.zero

/-- outcome of a pass through the loop body / of a call: an error is latched, or the invariant
    holds again, or the root container has just been closed at the end of a well-formed document -/
def Res (buf : Array UInt8) (md t : Nat) (q : Parser) : Prop :=
  q.err ≠ .none ∨ ZF buf md t q ∨ (∃ gs, ZG buf md t q gs) ∨ (q.used = q.size ∧ Accept buf md t)

theorem rem_same {p q : Parser} (hb : q.buf = p.buf) (hu : q.used = p.used) : q.rem = p.rem := by
  unfold Parser.rem; rw [hb, hu]

theorem ZG.next {buf : Array UInt8} {md t : Nat} {p q : Parser} {gs gs' : List Grp} (hZ : ZG buf md t p gs)
    (hs : Shape q) (he : q.err = .none) (fr : p.Frame q)
    (hd : q.depth = gs'.length) (hne : gs' ≠ [])
    (hz : ∀ i, q.depth ≤ i → q.getLvl i = Level.zero)
    (hm : Mirror buf md t q.getLvl gs' true)
    (tok rest : Bytes) (hrem : p.rem = tok ++ rest) (hu : q.used = p.used + tok.length)
    (henc : encGs gs' = encGs gs ++ tok) : ZG buf md t q gs' :=
  ⟨hs, he, fr.2.1.trans hZ.hbuf, fr.2.2.1.trans hZ.hmd, hZ.md255, fr.2.2.2.1.trans hZ.hpt, hZ.t12, hd, hne, hz, hm,
    by rw [hZ.bytes, hrem, rem_of_frame fr.2.1 hu hZ.shape hrem rfl, henc, List.append_assoc]⟩

theorem LvOk.sim {buf : Array UInt8} {L L' : Level} {g : Grp} {top : Bool} (h : LvOk buf L g top) (hs : L.Sim L') :
    LvOk buf L' g top := by
  obtain ⟨s1, s2, s3⟩ := hs
  have key : ∀ f, (f = .expField ∨ f = .expValue) → L.flags = f → L'.flags = f := by
    intro f hf hL
    rcases s3 with e | ⟨e, _⟩
    · rw [e, hL]
    · rw [hL] at e
      rcases hf with rfl | rfl <;> rcases e with e | e <;> cases e
  refine ⟨s1.trans h.ad, ?_, ?_, ?_, fun hv => by rw [s2]; exact h.name hv⟩
  · intro hne
    have := h.arrFlags hne
    rcases s3 with e | ⟨_, e⟩
    · rw [e]; exact this
    · exact e
  · intro ha ht
    rcases h.objTop ha ht with ⟨a, b⟩ | ⟨a, b⟩
    · exact Or.inl ⟨a, key _ (Or.inl rfl) b⟩
    · exact Or.inr ⟨a, key _ (Or.inr rfl) b⟩
  · intro ha ht
    obtain ⟨a, b⟩ := h.objLow ha ht
    exact ⟨a, key _ (Or.inl rfl) b⟩

/-- a token `tok` consumed at the innermost level: only that level entry changes (to `L'`), and
    it mirrors the new innermost group `g'` -/
theorem ZG.setTop {buf : Array UInt8} {md t : Nat} {p q : Parser} {g g' : Grp} {rest : List Grp} (hZ : ZG buf md t p (g :: rest))
    (hs : Shape q) (he : q.err = .none) (fr : p.Frame q) (hd : q.depth = p.depth)
    (L' : Level) (hg : ∀ j, q.getLvl j = if j = p.lvlIdx then L' else p.getLvl j)
    (tok rs : Bytes) (hrem : p.rem = tok ++ rs) (hu : q.used = p.used + tok.length)
    (hl : LvOk buf L' g' true) (hk : GrpOk (md - (rest.length + 1)) g') (hv : g'.virt = g.virt)
    (henc : encGrp g' = encGrp g ++ tok) : ZG buf md t q (g' :: rest) := by
  have hT := hZ.top
  refine hZ.next hs he fr (by rw [hd, hT.dep]; rfl) (by simp) (fun i hi => ?_) ?_ tok rs hrem hu ?_
  · rw [hd, hT.dep] at hi
    rw [hg, if_neg (by rw [hT.idx]; omega)]
    exact hZ.zeros i (by rw [hT.dep]; exact hi)
  · refine hZ.mirror.replaceTop (fun i hi => by rw [hg, if_neg (by rw [hT.idx]; omega)]) ?_ hk hv
    rw [hg, hT.idx, if_pos rfl]
    exact hl
  · show encGs rest ++ encGrp g' = encGs rest ++ encGrp g ++ tok
    rw [henc, List.append_assoc]

/-- nothing consumed, the innermost level changed at most by the array toggle / `current_type` -/
theorem ZG.same {buf : Array UInt8} {md t : Nat} {p q : Parser} {gs : List Grp} (hZ : ZG buf md t p gs)
    (hs : Shape q) (he : q.err = .none) (fr : p.Frame q) (hu : q.used = p.used) (hd : q.depth = p.depth)
    (L' : Level) (hsim : (p.getLvl p.lvlIdx).Sim L') (hg : ∀ j, q.getLvl j = if j = p.lvlIdx then L' else p.getLvl j) :
    ZG buf md t q gs := by
  obtain ⟨g, rest, rfl⟩ := List.exists_cons_of_ne_nil hZ.ne
  have hT := hZ.top
  rw [hT.idx] at hsim
  exact hZ.setTop hs he fr hd L' hg [] p.rem rfl hu (hT.lv.sim hsim) hT.ok rfl (List.append_nil _).symm

theorem ZG.same' {buf : Array UInt8} {md t : Nat} {p q : Parser} {gs : List Grp} (hZ : ZG buf md t p gs)
    (hs : Shape q) (he : q.err = .none) (fr : p.Frame q) (hu : q.used = p.used) (hd : q.depth = p.depth)
    (hg : ∀ j, q.getLvl j = p.getLvl j) : ZG buf md t q gs :=
  hZ.same hs he fr hu hd (p.getLvl p.lvlIdx) ⟨rfl, rfl, Or.inl rfl⟩ (fun j => by
    rw [hg j]
    split
    · rename_i h; rw [h]
    · rfl)

theorem LvOk.noJunk {buf : Array UInt8} {L : Level} {g : Grp} {D : Nat} (h : LvOk buf L g true) (hg : GrpOk D g) : NoJunk L.flags := by
  intro o a hf
  rcases h.cases hg with ⟨_, h2, _⟩ | ⟨_, _, h2, _⟩ | ⟨_, _, h2, _⟩
  · rcases h2 with h2 | h2 <;> rw [hf] at h2 <;> cases h2
  · rw [hf] at h2; cases h2
  · rw [hf] at h2; cases h2

end Binson
