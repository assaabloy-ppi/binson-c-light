/-
  Layer 4, corollaries: "reachable" pairs of machine state and reference cursor, and what
  holds for all of them (`reachable_good`, one induction along the run): the agreement relation of
  the refinement, the frame of the parser object (buffer, `max_depth`, parser type), no error, and
  the root closed once the cursor has left it.
-/
import Binson.Lemmas.Nav
import Binson.Lemmas.Stream
import Binson.Lemmas.NavRunDefs
import Binson.Lemmas.CppSerMap
namespace Binson

/-- the hypotheses under which the refinement holds: an allocated parser object, a depth
    configuration the state array can hold, a well-formed document that fits it -/
structure NavSetup (g : Parser) (root : Root) (v : Value) : Prop where
  alloc : Alloc g
  md : g.maxDepth ≤ 255
  wf : wfDoc root g.maxDepth v = true
  sz : (encode v).length < 2 ^ 63

def navStart (g : Parser) (root : Root) (v : Value) : Parser × Cursor :=
  ((init g (encode v).toArray (rootNum root)).1, Cursor.start root v)

/-- `(p, c)` is what some protocol-following call sequence leads to -/
def Reachable (g : Parser) (root : Root) (v : Value) (p : Parser) (c : Cursor) : Prop :=
  NavSetup g root v ∧ ∃ ops, (p, c) = navRun (navStart g root v) ops

theorem navRun_cons_allowed (pc : Parser × Cursor) (op : COp) (ops : List COp) (h : pc.2.allowed op = true) :
    navRun pc (op :: ops) = navRun ((machNav pc.1 op).1, (pc.2.step op).1) ops := by
  rw [navRun, if_pos h]

theorem navRun_cons_refused (pc : Parser × Cursor) (op : COp) (ops : List COp) (h : pc.2.allowed op = false) :
    navRun pc (op :: ops) = pc := by
  rw [navRun, if_neg (by rw [h]; decide)]

theorem navRun_induct (P : Parser → Cursor → Prop)
    (hstep : ∀ p c op, P p c → c.allowed op = true → P (machNav p op).1 (c.step op).1) :
    ∀ (ops : List COp) (pc : Parser × Cursor), P pc.1 pc.2 → P (navRun pc ops).1 (navRun pc ops).2
  | [], _, h => h
  | op :: ops, pc, h => by
    cases ha : pc.2.allowed op with
    | false => rw [navRun_cons_refused pc op ops ha]; exact h
    | true =>
      rw [navRun_cons_allowed pc op ops ha]
      exact navRun_induct P hstep ops _ (hstep pc.1 pc.2 op h ha)

theorem navRun_extend : ∀ (ops : List COp) (pc : Parser × Cursor) (op : COp), (navRun pc ops).2.allowed op = true →
    ∃ ops', navRun pc ops' = ((machNav (navRun pc ops).1 op).1, ((navRun pc ops).2.step op).1)
  | [], pc, op, h => ⟨[op], by rw [navRun_cons_allowed pc op [] h]; rfl⟩
  | o :: r, pc, op, h => by
    cases ha : pc.2.allowed o with
    | false =>
      rw [navRun_cons_refused pc o r ha] at h ⊢
      exact ⟨[op], by rw [navRun_cons_allowed pc op [] h]; rfl⟩
    | true =>
      rw [navRun_cons_allowed pc o r ha] at h ⊢
      obtain ⟨ops', e⟩ := navRun_extend r _ op h
      exact ⟨o :: ops', by rw [navRun_cons_allowed pc o ops' ha]; exact e⟩

/-! ### every navigation call keeps the frame invariant of the streaming proof -/

theorem machNav_inv {buf : Array UInt8} {md t : Nat} (p : Parser) (op : COp) (hI : Inv buf md t p) :
    Inv buf md t (machNav p op).1 := by
  cases op with
  | next => exact next_inv p hI
  | enterObj => exact advance_inv p .enterObj none hI
  | enterArr => exact advance_inv p .enterArr none hI
  | leaveObj => exact leaveObject_inv p hI
  | leaveArr => exact leaveArray_inv p hI
  | raw => exact getRaw_inv p hI
  | field nm => exact field_inv p nm hI

theorem Fresh.agree_start {W : Parser} {root : Root} {v : Value} {md : Nat}
    (hF : Fresh W (encode v).toArray (rootNum root) md) (hmd : md ≤ 255) (hwf : wfDoc root md v = true) :
    Agree W (Cursor.start root v) := by
  have hm : W.maxDepth = md := hF.maxDepth
  subst hm
  exact Agree.start root v rfl hF hmd hwf

/-- `reset` of ANY shaped parser over the encoding of a well-formed document is accepted and leaves a
    fresh parser, which agrees with the cursor before the root -/
theorem reset_encode_start {p : Parser} {root : Root} {v : Value} {md : Nat} (hs : Shape p)
    (hbuf : p.buf = (encode v).toArray) (hpt : p.ptype = rootNum root) (hmd : p.maxDepth = md) (hmd255 : md ≤ 255)
    (hwf : wfDoc root md v = true) :
    (reset p).2 = true ∧ Fresh (reset p).1 (encode v).toArray (rootNum root) md ∧ Agree (reset p).1 (Cursor.start root v) := by
  obtain ⟨b0, bl, m, he, ht⟩ := encode_ends root v (rootKindOk_of_wfDoc hwf)
  obtain ⟨h2, hb0, hbl⟩ := buf_ends (buf := (encode v).toArray) he
  obtain ⟨r1, hF⟩ := reset_to_fresh hs hbuf hpt hmd b0 bl ht h2 hb0 hbl
  exact ⟨r1, hF, hF.agree_start hmd255 hwf⟩

theorem NavSetup.fresh {g : Parser} {root : Root} {v : Value} (hS : NavSetup g root v) :
    Fresh (navStart g root v).1 (encode v).toArray (rootNum root) g.maxDepth :=
  (verify_wellformed g hS.alloc hS.md root v hS.wf hS.sz).2.1

theorem NavSetup.inv_start {g : Parser} {root : Root} {v : Value} (hS : NavSetup g root v) :
    Inv (encode v).toArray g.maxDepth (rootNum root) (navStart g root v).1 :=
  (init_inv g hS.alloc hS.md _ (by simpa using hS.sz) _ (verify_wellformed g hS.alloc hS.md root v hS.wf hS.sz).1).2.2

theorem Cursor.step_done_of_not_leave (c : Cursor) (op : COp) (h1 : op ≠ .leaveObj) (h2 : op ≠ .leaveArr) :
    (c.step op).1.done = c.done := by
  cases op with
  | leaveObj => exact absurd rfl h1
  | leaveArr => exact absurd rfl h2
  | next =>
    simp only [Cursor.step]
    split
    · rfl
    · split <;> rfl
  | enterObj | enterArr => simp only [Cursor.step]; split <;> rfl
  | raw =>
    simp only [Cursor.step]
    split
    · split <;> rfl
    · rfl
  | field nm =>
    simp only [Cursor.step]
    split
    · rfl
    · split
      · split <;> rfl
      · rfl

/-- the invariant of a protocol-following run: the agreement relation, the frame invariant of the
    streaming proof, no error, and the root closed at the end of the buffer once the cursor is done -/
structure NavGood (buf : Array UInt8) (md t : Nat) (p : Parser) (c : Cursor) : Prop where
  agree : Agree p c
  inv : Inv buf md t p
  err : p.err = .none
  closed : c.done = true → RootClosed p

theorem NavGood.step {buf : Array UInt8} {md : Nat} {root : Root} {p : Parser} {c : Cursor}
    (hG : NavGood buf md (rootNum root) p c) (op : COp) (ha : c.allowed op = true) :
    NavGood buf md (rootNum root) (machNav p op).1 (c.step op).1 := by
  obtain ⟨hA, hI, _, _⟩ := hG
  obtain ⟨hO, hA'⟩ := agree_step hA op ha
  have hI' := machNav_inv p op hI
  refine ⟨hA', hI', hO.2.2.1, ?_⟩
  intro hd
  have hpt : (machNav p op).1.ptype = rootNum root := hI'.hpt
  cases hA with
  | start root' v hc hF hmd hwf =>
    subst hc
    have hop : op ≠ .leaveObj ∧ op ≠ .leaveArr := by
      rcases start_allowed root' v op ha with ⟨rfl, _⟩ | ⟨rfl, _⟩ <;> simp
    rw [Cursor.step_done_of_not_leave _ _ hop.1 hop.2] at hd
    cases hd
  | done hf hd0 =>
    cases op <;> simp [Cursor.allowed, Cursor.pending, hf, hd0] at ha
  | run L Ls pend h =>
    have hpt0 : p.ptype = rootNum root := hI.hpt
    by_cases h1 : op = .leaveObj
    · subst h1
      obtain ⟨e1, e2, e3⟩ := h.navc_leaveObj_closed ha hd
      have hm : (machNav p .leaveObj).1 = (leaveObject p).1 := rfl
      rw [hm] at hpt ⊢
      refine ⟨e1, Or.inl ⟨?_, e2⟩⟩
      cases root with
      | object => exact hpt
      | array => have := h.aroot.mpr hpt0; rw [e3] at this; cases this
    · by_cases h2 : op = .leaveArr
      · subst h2
        obtain ⟨e1, e2, e3, e4⟩ := h.navc_leaveArr_closed ha hd
        have hm : (machNav p .leaveArr).1 = (leaveArray p).1 := rfl
        rw [hm] at hpt ⊢
        refine ⟨e1, Or.inr ⟨?_, e2, e3⟩⟩
        cases root with
        | array => exact hpt
        | object =>
          have := h.aroot.mp e4
          rw [hpt0] at this; cases this
      · rw [Cursor.step_done_of_not_leave _ _ h1 h2, h.done] at hd; cases hd

theorem Reachable.start {g : Parser} {root : Root} {v : Value} (hS : NavSetup g root v) :
    Reachable g root v (navStart g root v).1 (navStart g root v).2 := ⟨hS, [], rfl⟩

theorem reachable_good {g : Parser} {root : Root} {v : Value} {p : Parser} {c : Cursor}
    (h : Reachable g root v p c) : NavGood (encode v).toArray g.maxDepth (rootNum root) p c := by
  obtain ⟨hS, ops, e⟩ := h
  have := navRun_induct (NavGood (encode v).toArray g.maxDepth (rootNum root)) (fun p c op hG ha => hG.step op ha) ops
    (navStart g root v) ⟨hS.fresh.agree_start hS.md hS.wf, hS.inv_start, hS.fresh.err, fun hd => by cases hd⟩
  rw [← e] at this
  exact this

theorem reachable_agree {g : Parser} {root : Root} {v : Value} {p : Parser} {c : Cursor}
    (h : Reachable g root v p c) : Agree p c := (reachable_good h).agree

theorem reachable_inv {g : Parser} {root : Root} {v : Value} {p : Parser} {c : Cursor}
    (h : Reachable g root v p c) : Inv (encode v).toArray g.maxDepth (rootNum root) p := (reachable_good h).inv

theorem reachable_step {g : Parser} {root : Root} {v : Value} {p : Parser} {c : Cursor}
    (h : Reachable g root v p c) (op : COp) (ha : c.allowed op = true) :
    Reachable g root v (machNav p op).1 (c.step op).1 := by
  obtain ⟨hS, ops, e⟩ := h
  have e1 : (navRun (navStart g root v) ops).1 = p := by rw [← e]
  have e2 : (navRun (navStart g root v) ops).2 = c := by rw [← e]
  obtain ⟨ops', e'⟩ := navRun_extend ops (navStart g root v) op (by rw [e2]; exact ha)
  rw [e1, e2] at e'
  exact ⟨hS, ops', e'.symm⟩

theorem reachable_obs {g : Parser} {root : Root} {v : Value} {p : Parser} {c : Cursor}
    (h : Reachable g root v p c) (op : COp) (ha : c.allowed op = true) : Obs p c op :=
  (agree_step (reachable_agree h) op ha).1

theorem Reachable.buf {g : Parser} {root : Root} {v : Value} {p : Parser} {c : Cursor}
    (h : Reachable g root v p c) : p.buf = (encode v).toArray := (reachable_inv h).hbuf

theorem Reachable.maxDepth {g : Parser} {root : Root} {v : Value} {p : Parser} {c : Cursor}
    (h : Reachable g root v p c) : p.maxDepth = g.maxDepth := (reachable_inv h).hmd

theorem Reachable.ptype {g : Parser} {root : Root} {v : Value} {p : Parser} {c : Cursor}
    (h : Reachable g root v p c) : p.ptype = rootNum root := (reachable_inv h).hpt

end Binson
