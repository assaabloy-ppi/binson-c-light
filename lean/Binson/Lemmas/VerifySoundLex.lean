/-
  Soundness of verify: what a successful classification says about the bytes at the
  cursor (the converse of Lemmas/Tokens.lean).
-/
import Binson.Lemmas.Pass
namespace Binson

/-- the possible situations at the cursor of a shaped parser -/
inductive Lex (p : Parser) (bc0 : Nat) : Prop
  | err (h : (classify p bc0).tok = .error)
  | objBegin (rest : Bytes) (h : p.rem = 0x40 :: rest)
  | objEnd (rest : Bytes) (h : p.rem = 0x41 :: rest)
  | arrBegin (rest : Bytes) (h : p.rem = 0x42 :: rest)
  | arrEnd (rest : Bytes) (h : p.rem = 0x43 :: rest)
  | scalar (v : Value) (rest : Bytes) (tok : Tok) (span : Span) (hs : v.isContainer = false) (hwf : wfValue v = true)
      (h : p.rem = encode v ++ rest)
      (hcl : classify p bc0 = ⟨tok, span, (encode v).length, { p with used := p.used + (encode v).length }⟩)
      (hsc : tok.isScalar = true) (hsp : span.off + span.len ≤ p.size) (hstr : tok = .string → ∃ s, v = .str s)
  | badInt (w : Nat) (hfit : p.used + 1 + w ≤ p.size)
      (hcl : classify p bc0 = ⟨.integer, ⟨p.used + 1, w⟩, 1 + w, { p with used := p.used + 1 + w }⟩)
      (hbad : intBoundsOk (parseIntVal p ⟨p.used + 1, w⟩) w = false)

theorem rem_eq_cons {p : Parser} (h : Shape p) (hu : p.used < p.size) :
    p.rem = p.byte p.used :: p.buf.toList.drop (p.used + 1) := by
  have hsz : p.used < p.buf.size := by rw [h.hbs]; exact hu
  have hlt : p.used < p.buf.toList.length := by simpa using hsz
  unfold Parser.rem
  rw [List.drop_eq_getElem_cons hlt]
  congr 1
  unfold Parser.byte
  simp [Array.getD_eq_getD_getElem?, hsz]

/-- a minimal-width integer payload read by the parser is what `decIntBody` reads -/
theorem decIntBody_of_bounds {p : Parser} (k : Nat) (hk : k ≤ 3) (off : Nat) (r : Bytes)
    (hr : p.buf.toList.drop off = r) (hfit : off + 2 ^ k ≤ p.buf.size)
    (hbo : intBoundsOk (parseIntVal p ⟨off, 2 ^ k⟩) (2 ^ k) = true) :
    decIntBody k r = some (parseIntVal p ⟨off, 2 ^ k⟩, r.drop (2 ^ k)) := by
  have hlen : ¬ r.length < 2 ^ k := by rw [← hr, List.length_drop, Array.length_toList]; omega
  have htl : (r.take (2 ^ k)).length = 2 ^ k := by rw [List.length_take]; omega
  have hn : leNatL (r.take (2 ^ k)) < 256 ^ (2 ^ k) := by
    have := leNatL_lt (r.take (2 ^ k)); rwa [htl] at this
  have hw : 2 ^ k = 1 ∨ 2 ^ k = 2 ∨ 2 ^ k = 4 ∨ 2 ^ k = 8 := by
    have : k = 0 ∨ k = 1 ∨ k = 2 ∨ k = 3 := by omega
    rcases this with rfl | rfl | rfl | rfl <;> decide
  have hpv := parseIntVal_eq_sext (p := p) (off := off) (bs := r.take (2 ^ k)) (r := r.drop (2 ^ k))
    (by rw [List.take_append_drop]; exact hr) (by rw [htl]; exact hw)
  rw [htl] at hpv
  rw [hpv] at hbo ⊢
  have hwi := (intBoundsOk_sext_iff (2 ^ k) _ hw hn).mp hbo
  have hke : intWidthExp (sext (2 ^ k) (leNatL (r.take (2 ^ k)))) = k :=
    ((Nat.pow_right_inj (by decide)).mp hwi).symm
  unfold decIntBody
  dsimp only
  rw [if_neg hlen, if_pos hke]

/-- when `_process_one` returns no error token: the tag class and the bounds checks that passed -/
theorem processOne_ok {p : Parser} (h : Shape p) (hu : p.used < p.size) (b : UInt8)
    (hne : (processOne p b).tok ≠ .error) :
    (b = 0x44 ∨ b = 0x45) ∨
    (b = 0x46 ∧ p.used + 1 + 8 ≤ p.size) ∨
    ((b = 0x10 ∨ b = 0x11 ∨ b = 0x12 ∨ b = 0x13) ∧ p.used + 1 + 2 ^ (b.toNat % 4) ≤ p.size) ∨
    ((b = 0x14 ∨ b = 0x15 ∨ b = 0x16 ∨ b = 0x18 ∨ b = 0x19 ∨ b = 0x1a) ∧
      p.used + 1 + 2 ^ (b.toNat % 4) ≤ p.size ∧
      intBoundsOk (parseIntVal p ⟨p.used + 1, 2 ^ (b.toNat % 4)⟩) (2 ^ (b.toNat % 4)) = true ∧
      0 ≤ parseIntVal p ⟨p.used + 1, 2 ^ (b.toNat % 4)⟩ ∧
      parseIntVal p ⟨p.used + 1, 2 ^ (b.toNat % 4)⟩ ≤ 2147483647 ∧
      p.used + 1 + 2 ^ (b.toNat % 4) + (parseIntVal p ⟨p.used + 1, 2 ^ (b.toNat % 4)⟩).toNat ≤ p.size) := by
  have h1 := shape_used1 h hu
  have hsz := h.hsz
  have hw := pow_mod4_le b
  unfold processOne at hne
  dsimp only at hne
  by_cases c1 : b = 0x44 ∨ b = 0x45
  · exact .inl c1
  rw [if_neg c1] at hne
  by_cases c2 : b = 0x46
  · rw [if_pos c2] at hne
    by_cases hf : p.used + 1 + 8 ≤ p.size
    · exact .inr (.inl ⟨c2, hf⟩)
    · rw [consume_fail h1 8 false (by omega) hf] at hne
      exact absurd rfl hne
  rw [if_neg c2] at hne
  by_cases c3 : b = 0x10 ∨ b = 0x11 ∨ b = 0x12 ∨ b = 0x13
  · rw [if_pos c3] at hne
    by_cases hf : p.used + 1 + 2 ^ (b.toNat % 4) ≤ p.size
    · exact .inr (.inr (.inl ⟨c3, hf⟩))
    · rw [consume_fail h1 _ false (by omega) hf] at hne
      exact absurd rfl hne
  rw [if_neg c3] at hne
  by_cases c4 : b = 0x14 ∨ b = 0x15 ∨ b = 0x16 ∨ b = 0x18 ∨ b = 0x19 ∨ b = 0x1a
  · rw [if_pos c4] at hne
    by_cases hf : p.used + 1 + 2 ^ (b.toNat % 4) ≤ p.size
    · rw [consume_ok h1 _ false (by omega) hf] at hne
      have h2 : Shape { p with used := p.used + 1 + 2 ^ (b.toNat % 4) } := h.withUsed _ hf
      have htb : ({ p with used := p.used + 1 + 2 ^ (b.toNat % 4) } : Parser).touchBuf (p.used + 1) (2 ^ (b.toNat % 4))
          = { p with used := p.used + 1 + 2 ^ (b.toNat % 4) } :=
        touchBuf_of_le (by rw [show ({ p with used := p.used + 1 + 2 ^ (b.toNat % 4) } : Parser).buf.size = p.buf.size from rfl, h.hbs]; omega)
      have hlv : parseIntVal { p with used := p.used + 1 + 2 ^ (b.toNat % 4) } ⟨p.used + 1, 2 ^ (b.toNat % 4)⟩
          = parseIntVal p ⟨p.used + 1, 2 ^ (b.toNat % 4)⟩ :=
        parseIntVal_congr (p := p) (q := { p with used := p.used + 1 + 2 ^ (b.toNat % 4) }) rfl _
      simp only [Bool.not_true, Bool.false_eq_true, if_false, htb, hlv] at hne
      generalize parseIntVal p ⟨p.used + 1, 2 ^ (b.toNat % 4)⟩ = L at hne ⊢
      cases hbo : intBoundsOk L (2 ^ (b.toNat % 4))
      · rw [hbo] at hne; exact absurd rfl hne
      rw [hbo] at hne
      by_cases hrg : 0 ≤ L ∧ L ≤ 2147483647
      · simp only [hrg, and_self, decide_true, Bool.not_true, Bool.false_eq_true, if_false] at hne
        by_cases hf2 : p.used + 1 + 2 ^ (b.toNat % 4) + L.toNat ≤ p.size
        · exact .inr (.inr (.inr ⟨c4, hf, rfl, hrg.1, hrg.2, hf2⟩))
        · rw [consume_fail h2 _ false (by omega) hf2] at hne
          exact absurd rfl hne
      · simp only [hrg, decide_false, Bool.not_false, if_true] at hne
        exact absurd rfl hne
    · rw [consume_fail h1 _ false (by omega) hf] at hne
      exact absurd rfl hne
  · rw [if_neg c4] at hne
    exact absurd rfl hne

/-- what `_process_one` says about the bytes `b :: r` at the cursor -/
def LexOne (p : Parser) (b : UInt8) (r : Bytes) : Prop :=
  (processOne p b).tok = .error ∨
  (∃ v rest tok span, Value.isContainer v = false ∧ wfValue v = true ∧ b :: r = encode v ++ rest ∧
    processOne p b = ⟨tok, span, (encode v).length, { p with used := p.used + (encode v).length }⟩ ∧
    tok.isScalar = true ∧ span.off + span.len ≤ p.size ∧ (tok = .string → ∃ s, v = .str s)) ∨
  (∃ w, p.used + 1 + w ≤ p.size ∧
    processOne p b = ⟨.integer, ⟨p.used + 1, w⟩, 1 + w, { p with used := p.used + 1 + w }⟩ ∧
    intBoundsOk (parseIntVal p ⟨p.used + 1, w⟩) w = false)

theorem lexOne {p : Parser} (h : Shape p) (hu : p.used < p.size) (b : UInt8) (r : Bytes)
    (hr : p.buf.toList.drop (p.used + 1) = r) : LexOne p b r := by
  by_cases he : (processOne p b).tok = .error
  · exact .inl he
  have hbs := h.hbs
  have hlen : r.length = p.buf.size - (p.used + 1) := by rw [← hr, List.length_drop, Array.length_toList]
  -- a value that leaves `m` bytes fewer than `r` is `1 + m` bytes long: the closed forms of `processOne` speak of `m`
  have hvl : ∀ (v : Value) (rest : Bytes) (m : Nat), m ≤ r.length → rest.length = r.length - m →
      b :: r = encode v ++ rest → (encode v).length = 1 + m := by
    intro v rest m hm hrest henc
    have := congrArg List.length henc
    rw [List.length_cons, List.length_append] at this
    omega
  rcases processOne_ok h hu b he with hb | ⟨rfl, hf⟩ | ⟨hb, hf⟩ | ⟨hb, hf, hbo, h0, hmax, hf2⟩
  · have hp : processOne p b = ⟨.boolean, ⟨p.used, 1⟩, 1, { p with used := p.used + 1 }⟩ := by
      rw [processOne_eq, if_pos hb]
    rcases hb with rfl | rfl
    · exact .inr (.inl ⟨.bool true, r, _, _, rfl, rfl, rfl, hp, rfl, hu, nofun⟩)
    · exact .inr (.inl ⟨.bool false, r, _, _, rfl, rfl, rfl, hp, rfl, hu, nofun⟩)
  · have henc := dbl_sound r (by omega)
    refine .inr (.inl ⟨_, _, .double, ⟨p.used + 1, 8⟩, rfl, rfl, henc, ?_, rfl, hf, nofun⟩)
    rw [hvl _ _ 8 (by omega) (List.length_drop ..) henc, ← Nat.add_assoc]
    exact processOne_dbl h hf
  · -- an integer of the minimal width is a value; of another width, a token the getter rejects
    cases hbo : intBoundsOk (parseIntVal p ⟨p.used + 1, 2 ^ (b.toNat % 4)⟩) (2 ^ (b.toNat % 4))
    · exact .inr (.inr ⟨_, hf, processOne_int h b hb hf, hbo⟩)
    · have hd := decIntBody_of_bounds (p := p) (b.toNat % 4) (by omega) (p.used + 1) r hr (by omega) hbo
      have hk : (0x10 ≤ b ∧ b ≤ 0x13) ∧ b.toNat % 4 = b.toNat - 0x10 := by
        rcases hb with rfl | rfl | rfl | rfl <;> decide
      obtain ⟨hi, henc⟩ := int_sound b r _ _ hk.1 (by rw [← hk.2]; exact hd)
      refine .inr (.inl ⟨.int _, _, .integer, ⟨p.used + 1, 2 ^ (b.toNat % 4)⟩, rfl, decide_eq_true hi, henc, ?_, rfl, hf, nofun⟩)
      rw [hvl (.int _) _ _ (by omega) (List.length_drop ..) henc, ← Nat.add_assoc]
      exact processOne_int h b hb hf
  · -- the length prefix and the payload are what `decBlob` reads
    have hd := decIntBody_of_bounds (p := p) (b.toNat % 4) (by omega) (p.used + 1) r hr (by omega) hbo
    have hL := (Int.toNat_of_nonneg h0).symm
    have hp := processOne_blob h b hb _ hf hL (by rw [← hL]; exact hbo) (by omega) hf2
    generalize parseIntVal p ⟨p.used + 1, 2 ^ (b.toNat % 4)⟩ = L at hd h0 hmax hf2 hp
    have hdb := decBlob_of_int _ _ _ _ hd h0 (by rw [List.length_drop]; omega)
    have hrl : ((r.drop (2 ^ (b.toNat % 4))).drop L.toNat).length = r.length - (2 ^ (b.toNat % 4) + L.toNat) := by
      rw [List.length_drop, List.length_drop]; omega
    have hk : ((0x14 ≤ b ∧ b ≤ 0x16) ∧ b.toNat % 4 = b.toNat - 0x14 ∧ b.toNat < 0x18) ∨
        ((0x18 ≤ b ∧ b ≤ 0x1a) ∧ b.toNat % 4 = b.toNat - 0x18 ∧ ¬ b.toNat < 0x18) := by
      rcases hb with rfl | rfl | rfl | rfl | rfl | rfl <;> decide
    rcases hk with ⟨hrg, hk, hlt⟩ | ⟨hrg, hk, hlt⟩
    · rw [if_pos hlt] at hp
      obtain ⟨hl, henc⟩ := blob_sound 0x14 (by omega) hrg (by rw [← hk]; exact hdb)
      refine .inr (.inl ⟨.str _, _, .string, ⟨p.used + 1 + 2 ^ (b.toNat % 4), L.toNat⟩, rfl, decide_eq_true hl, henc, ?_, rfl, hf2, fun _ => ⟨_, rfl⟩⟩)
      rw [hvl (.str _) _ _ (by omega) hrl henc, ← Nat.add_assoc, ← Nat.add_assoc, ← Nat.add_assoc]
      exact hp
    · rw [if_neg hlt] at hp
      obtain ⟨hl, henc⟩ := blob_sound 0x18 (by omega) hrg (by rw [← hk]; exact hdb)
      refine .inr (.inl ⟨.bytes _, _, .bytes, ⟨p.used + 1 + 2 ^ (b.toNat % 4), L.toNat⟩, rfl, decide_eq_true hl, henc, ?_, rfl, hf2, nofun⟩)
      rw [hvl (.bytes _) _ _ (by omega) hrl henc, ← Nat.add_assoc, ← Nat.add_assoc, ← Nat.add_assoc]
      exact hp

theorem lex_cases {p : Parser} (h : Shape p) (bc0 : Nat) : Lex p bc0 := by
  by_cases hu : p.used < p.size
  · have hrem := rem_eq_cons h hu
    have hcl := classify_peek h hu bc0
    by_cases e0 : p.byte p.used = 0x40
    · exact .objBegin _ (by rw [hrem, e0])
    by_cases e1 : p.byte p.used = 0x41
    · exact .objEnd _ (by rw [hrem, e1])
    by_cases e2 : p.byte p.used = 0x42
    · exact .arrBegin _ (by rw [hrem, e2])
    by_cases e3 : p.byte p.used = 0x43
    · exact .arrEnd _ (by rw [hrem, e3])
    rw [if_neg e0, if_neg e1, if_neg e2, if_neg e3] at hcl
    rcases lexOne h hu (p.byte p.used) _ rfl with hx | ⟨v, rest, tok, span, hs, hwf, henc, hp, hsc, hsp, hstr⟩ | ⟨w, hfit, hp, hbad⟩
    · exact .err (by rw [hcl]; exact hx)
    · exact .scalar v rest tok span hs hwf (by rw [hrem]; exact henc) (by rw [hcl]; exact hp) hsc hsp hstr
    · exact .badInt w hfit (by rw [hcl]; exact hp) hbad
  · have hsz := h.hsz
    have hus := h.hus
    refine .err ?_
    unfold classify
    simp only [touchLvl_of_lt h.lvlIdx_lt]
    rw [consume_fail h 1 true (by omega) (by omega)]
    simp

end Binson
