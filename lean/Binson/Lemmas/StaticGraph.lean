/-
  C17, general part: facts about a call graph that carries a rank and a stack-bound certificate.
  Proved once for all graphs; the generated per-configuration data only needs `decide`.
-/
namespace Binson.Static

theorem getD_default {α} (l : List α) (i : Nat) (d : α) (h : l.length ≤ i) : l.getD i d = d := by
  simp [List.getD, List.getElem?_eq_none h]
theorem getD_getElem {α} (l : List α) (i : Nat) (d : α) (h : i < l.length) : l.getD i d = l[i] := by
  simp [List.getD, List.getElem?_eq_getElem h]

structure Cfg where
  name : String
  fns : List (String × Nat × Bool)     -- name, frame bytes, frame is static with no dynamic object
  nDefined : Nat                       -- the first nDefined entries are defined in the library, the rest are libc leaves
  edges : List (Nat × Nat)             -- caller, callee (indices into fns)
  rank : List Nat                      -- certificate: strictly decreasing along every edge
  bound : List Nat                     -- certificate: bound[u] >= frame[u] + bound[v] along every edge
  undefinedSyms : List String
  writableSyms : List String

def Cfg.frame (c : Cfg) (i : Nat) : Nat := (c.fns.getD i ("", 0, true)).2.1
def Cfg.rk (c : Cfg) (i : Nat) : Nat := c.rank.getD i 0
def Cfg.bd (c : Cfg) (i : Nat) : Nat := c.bound.getD i 0

def Cfg.edgesRanked (c : Cfg) : Bool := c.edges.all fun e => c.rk e.2 < c.rk e.1
def Cfg.boundsOk (c : Cfg) : Bool :=
  (c.edges.all fun e => c.frame e.1 + c.bd e.2 ≤ c.bd e.1) && ((List.range c.fns.length).all fun i => c.frame i ≤ c.bd i)
def Cfg.framesStatic (c : Cfg) : Bool := c.fns.all fun f => f.2.2
def allocators : List String :=
  ["malloc", "calloc", "realloc", "free", "alloca", "aligned_alloc", "posix_memalign", "strdup", "strndup", "mmap", "brk", "sbrk", "_Znwm", "_Znam"]
def Cfg.noAllocator (c : Cfg) : Bool := c.undefinedSyms.all fun s => !allocators.contains s
def Cfg.noWritable (c : Cfg) : Bool := c.writableSyms.isEmpty
def Cfg.maxBound (c : Cfg) : Nat := c.bound.foldl max 0

def Cfg.ok (c : Cfg) : Bool :=
  c.edgesRanked && c.boundsOk && c.framesStatic && c.noAllocator && c.noWritable &&
    decide (c.rank.length = c.fns.length) && decide (c.bound.length = c.fns.length)

def Cfg.isChain (c : Cfg) : List Nat → Prop
  | [] => True
  | [_] => True
  | a :: b :: r => (a, b) ∈ c.edges ∧ c.isChain (b :: r)

def Cfg.stackOf (c : Cfg) (p : List Nat) : Nat := (p.map c.frame).sum

theorem edge_rank (c : Cfg) (h : c.edgesRanked = true) {a b : Nat} (he : (a, b) ∈ c.edges) : c.rk b < c.rk a := by
  have := List.all_eq_true.mp h (a, b) he
  simpa using this

theorem chain_rank_lt (c : Cfg) (h : c.edgesRanked = true) :
    ∀ (p : List Nat) (a : Nat), c.isChain (a :: p) → ∀ x ∈ p, c.rk x < c.rk a
  | [], _, _, x, hx => by cases hx
  | b :: r, a, hc, x, hx => by
    have hab := edge_rank c h hc.1
    rcases List.mem_cons.mp hx with rfl | hx'
    · exact hab
    · exact Nat.lt_trans (chain_rank_lt c h r b hc.2 x hx') hab

/-- no function occurs twice on a call chain: there is no recursion, direct or mutual -/
theorem chain_nodup (c : Cfg) (h : c.edgesRanked = true) : ∀ p : List Nat, c.isChain p → p.Nodup
  | [], _ => List.nodup_nil
  | a :: p, hc => by
    refine List.nodup_cons.mpr ⟨?_, ?_⟩
    · intro hm
      exact Nat.lt_irrefl _ (chain_rank_lt c h p a hc a hm)
    · cases p with
      | nil => exact List.nodup_nil
      | cons b r => exact chain_nodup c h (b :: r) hc.2

theorem chain_length (c : Cfg) (h : c.edgesRanked = true) : ∀ (p : List Nat) (a : Nat), c.isChain (a :: p) → p.length ≤ c.rk a
  | [], _, _ => Nat.zero_le _
  | b :: r, a, hc => by
    have := chain_length c h r b hc.2
    have := edge_rank c h hc.1
    simp only [List.length_cons]; omega

theorem frame_le_bd (c : Cfg) (h : c.boundsOk = true) (i : Nat) : c.frame i ≤ c.bd i := by
  by_cases hi : i < c.fns.length
  · have h2 := (Bool.and_eq_true _ _ |>.mp h).2
    have := List.all_eq_true.mp h2 i (List.mem_range.mpr hi)
    simpa using this
  · have : c.frame i = 0 := by
      unfold Cfg.frame
      rw [getD_default _ _ _ (Nat.le_of_not_lt hi)]
    omega

theorem chain_stack (c : Cfg) (h : c.boundsOk = true) : ∀ (p : List Nat) (a : Nat), c.isChain (a :: p) → c.stackOf (a :: p) ≤ c.bd a
  | [], a, _ => by simpa [Cfg.stackOf] using frame_le_bd c h a
  | b :: r, a, hc => by
    have ih := chain_stack c h r b hc.2
    have h1 := (Bool.and_eq_true _ _ |>.mp h).1
    have he := List.all_eq_true.mp h1 (a, b) hc.1
    have he' : c.frame a + c.bd b ≤ c.bd a := by simpa using he
    simp only [Cfg.stackOf, List.map_cons, List.sum_cons] at ih ⊢
    omega

theorem foldl_max_ge (l : List Nat) : ∀ (m : Nat), m ≤ l.foldl max m ∧ ∀ x ∈ l, x ≤ l.foldl max m := by
  induction l with
  | nil => intro m; exact ⟨Nat.le_refl _, fun x hx => by cases hx⟩
  | cons y r ih =>
    intro m
    have := ih (max m y)
    refine ⟨Nat.le_trans (Nat.le_max_left m y) this.1, ?_⟩
    intro x hx
    rcases List.mem_cons.mp hx with rfl | hx'
    · exact Nat.le_trans (Nat.le_max_right m x) this.1
    · exact this.2 x hx'

theorem bd_le_maxBound (c : Cfg) (i : Nat) : c.bd i ≤ c.maxBound := by
  unfold Cfg.bd Cfg.maxBound
  by_cases hi : i < c.bound.length
  · have : c.bound.getD i 0 ∈ c.bound := by
      rw [getD_getElem _ _ _ hi]; exact List.getElem_mem hi
    exact (foldl_max_ge c.bound 0).2 _ this
  · rw [getD_default _ _ _ (Nat.le_of_not_lt hi)]; exact Nat.zero_le _

/-! ### the checks in a form the kernel evaluates quickly

The kernel divides a big number in one step but walks a list cell by cell, so the table lookups
`l.getD i 0` of `edgesRanked` and `boundsOk` are done on the list packed into one number
(`pack`, `digit`, `Cfg.okFast`); `okFast_sound` ties the result to `Cfg.ok`. -/

def pack : List Nat → Nat
  | [] => 0
  | a :: l => a + 2 ^ 32 * pack l

def digit (n i : Nat) : Nat := n / 2 ^ (32 * i) % 2 ^ 32

theorem digit_pack : ∀ (l : List Nat) (i : Nat), l.all (· < 2 ^ 32) = true → digit (pack l) i = l.getD i 0
  | [], i, _ => by rw [pack, digit, Nat.zero_div, Nat.zero_mod]; rfl
  | a :: l, i, h => by
    rw [List.all_cons, Bool.and_eq_true, decide_eq_true_eq] at h
    cases i with
    | zero =>
      rw [pack, digit, Nat.mul_zero, Nat.pow_zero, Nat.div_one, Nat.add_mul_mod_self_left, Nat.mod_eq_of_lt h.1]
      rfl
    | succ i =>
      rw [pack, digit, Nat.mul_succ, Nat.add_comm (32 * i), Nat.pow_add, ← Nat.div_div_eq_div_mul,
        Nat.add_mul_div_left _ _ (by decide), Nat.div_eq_of_lt h.1, Nat.zero_add]
      exact digit_pack l i h.2

theorem frame_eq (c : Cfg) (i : Nat) : c.frame i = (c.fns.map (·.2.1)).getD i 0 := by
  unfold Cfg.frame
  rw [List.getD_eq_getElem?_getD, List.getD_eq_getElem?_getD, List.getElem?_map]
  cases c.fns[i]? <;> rfl

def Cfg.okFast (c : Cfg) : Bool :=
  c.rank.all (· < 2 ^ 32) && c.bound.all (· < 2 ^ 32) && (c.fns.map (·.2.1)).all (· < 2 ^ 32) &&
  (c.edges.all fun e => digit (pack c.rank) e.2 < digit (pack c.rank) e.1) &&
  (c.edges.all fun e => digit (pack (c.fns.map (·.2.1))) e.1 + digit (pack c.bound) e.2 ≤ digit (pack c.bound) e.1) &&
  ((List.range c.fns.length).all fun i => digit (pack (c.fns.map (·.2.1))) i ≤ digit (pack c.bound) i) &&
  c.framesStatic && c.noAllocator && c.noWritable &&
    decide (c.rank.length = c.fns.length) && decide (c.bound.length = c.fns.length)

theorem okFast_sound (c : Cfg) (h : c.okFast = true) : c.ok = true := by
  unfold Cfg.okFast at h
  simp only [Bool.and_eq_true] at h
  obtain ⟨⟨⟨⟨⟨⟨⟨⟨⟨⟨hr, hb⟩, hf⟩, h1⟩, h2⟩, h3⟩, h4⟩, h5⟩, h6⟩, h7⟩, h8⟩ := h
  simp only [digit_pack _ _ hr, digit_pack _ _ hb, digit_pack _ _ hf, ← frame_eq] at h1 h2 h3
  have hbo : c.boundsOk = true := Bool.and_eq_true_iff.mpr ⟨h2, h3⟩
  have her : c.edgesRanked = true := h1
  unfold Cfg.ok
  rw [her, hbo, h4, h5, h6, h7, h8]
  rfl

end Binson.Static
