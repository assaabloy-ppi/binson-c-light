/-
  Layer 1: what the classification stage (peek, BEGIN/END switch, `_process_one`)
  guarantees on a shaped parser.
-/
import Binson.Lemmas.Shape
namespace Binson

/-- fields a stage leaves alone -/
def Parser.SameFrame (p q : Parser) : Prop :=
  q.ptype = p.ptype ∧ q.depth = p.depth ∧ q.maxDepth = p.maxDepth ∧ q.size = p.size ∧ q.buf = p.buf ∧
  q.cur = p.cur ∧ q.levels.size = p.levels.size

theorem Parser.SameFrame.refl (p : Parser) : p.SameFrame p := ⟨rfl, rfl, rfl, rfl, rfl, rfl, rfl⟩

theorem Parser.SameFrame.trans {p q r : Parser} (a : p.SameFrame q) (b : q.SameFrame r) : p.SameFrame r := by
  obtain ⟨a1, a2, a3, a4, a5, a6, a8⟩ := a
  obtain ⟨b1, b2, b3, b4, b5, b6, b8⟩ := b
  exact ⟨b1.trans a1, b2.trans a2, b3.trans a3, b4.trans a4, b5.trans a5, b6.trans a6, b8.trans a8⟩

def Tok.isBeginEnd : Tok → Bool
  | .objBegin | .objEnd | .arrBegin | .arrEnd => true
  | _ => false

theorem Tok.isBeginEnd_cases {tok : Tok} (h : tok.isBeginEnd = true) :
    tok = .objBegin ∨ tok = .objEnd ∨ tok = .arrBegin ∨ tok = .arrEnd := by
  cases tok <;> simp [Tok.isBeginEnd] at h ⊢

structure ClsOk (p : Parser) (bc0 : Nat) (c : Cls) : Prop where
  shape : Shape c.p
  err : c.p.err = p.err
  frame : p.SameFrame c.p
  span : c.span.off + c.span.len ≤ p.size
  notFieldName : c.tok ≠ .fieldName
  be : c.tok.isBeginEnd = true → c.p.used = p.used ∧ c.bc = bc0 ∧ c.span = ⟨p.used, 1⟩ ∧ p.used < p.size
  sc : c.tok.isBeginEnd = false → c.p.used = p.used + c.bc ∧ 1 ≤ c.bc ∧ c.p.levels = p.levels
  /-- classification only ever writes `current_type` -/
  lvl : ∀ i, c.p.getLvl i = { p.getLvl i with ctype := (c.p.getLvl i).ctype }

structure ClsErr (p : Parser) (c : Cls) : Prop where
  shape : Shape c.p
  err : c.p.err ≠ .none
  frame : p.SameFrame c.p
  levels : c.p.levels = p.levels

def ClsOut (p : Parser) (bc0 : Nat) (c : Cls) : Prop :=
  p.used ≤ c.p.used ∧ ((c.tok = .error ∧ ClsErr p c) ∨ (c.tok ≠ .error ∧ ClsOk p bc0 c))

/-- `_process_one` never yields a BEGIN / END token -/
def ScalarOut (p : Parser) (bc0 : Nat) (c : Cls) : Prop :=
  c.tok.isBeginEnd = false ∧ ClsOut p bc0 c

theorem ScalarOut.err {p : Parser} (h : Shape p) {u : Nat} (hu : p.used ≤ u) (hs : u ≤ p.size) (e : Err) (he : e ≠ .none)
    (s : Span) (bc bc0 : Nat) : ScalarOut p bc0 ⟨.error, s, bc, { p with used := u, err := e }⟩ :=
  ⟨rfl, hu, Or.inl ⟨rfl, (h.withUsed u hs).withErr e he, he, ⟨rfl, rfl, rfl, rfl, rfl, rfl, rfl⟩, rfl⟩⟩

theorem ScalarOut.tok {p : Parser} (h : Shape p) {tok : Tok} (hbe : tok.isBeginEnd = false) (hne : tok ≠ .error)
    (hnf : tok ≠ .fieldName) {s : Span} (hs : s.off + s.len ≤ p.size) {bc u : Nat} (h1 : 1 ≤ bc) (hu : u = p.used + bc)
    (hf : u ≤ p.size) (bc0 : Nat) : ScalarOut p bc0 ⟨tok, s, bc, { p with used := u }⟩ :=
  ⟨hbe, hu ▸ Nat.le_add_right _ _, Or.inr ⟨hne, h.withUsed u hf, rfl, ⟨rfl, rfl, rfl, rfl, rfl, rfl, rfl⟩, hs, hnf,
    fun hb => absurd (hbe.symm.trans hb) (by decide), fun _ => ⟨hu, h1, rfl⟩, fun _ => rfl⟩⟩

theorem shape_used1 {p : Parser} (h : Shape p) (hu : p.used < p.size) : Shape { p with used := p.used + 1 } :=
  h.withUsed _ (by omega)

theorem pow_mod4_le (b0 : UInt8) : 2 ^ (b0.toNat % 4) ≤ 8 := by
  have : b0.toNat % 4 < 4 := Nat.mod_lt _ (by decide)
  have : b0.toNat % 4 = 0 ∨ b0.toNat % 4 = 1 ∨ b0.toNat % 4 = 2 ∨ b0.toNat % 4 = 3 := by omega
  rcases this with e | e | e | e <;> rw [e] <;> decide

/-! ### reading bytes depends on the buffer only -/

theorem byte_congr {p q : Parser} (h : q.buf = p.buf) (off : Nat) : q.byte off = p.byte off := by
  unfold Parser.byte; rw [h]

theorem leNat_congr {p q : Parser} (h : q.buf = p.buf) (off w : Nat) : leNat q off w = leNat p off w := by
  induction w generalizing off with
  | zero => rfl
  | succ w ih => simp only [leNat, ih, byte_congr h]

theorem parseIntVal_congr {p q : Parser} (h : q.buf = p.buf) (s : Span) : parseIntVal q s = parseIntVal p s := by
  unfold parseIntVal
  simp only [leNat_congr h, byte_congr h]

/-! ### `_process_one`: the type byte selects one of two readers -/

/-- a scalar whose payload is the `w` bytes after the type byte; `p1` is the parser past that byte -/
def fixedTok (tok : Tok) (p1 : Parser) (w : Nat) : Cls :=
  let (ok, s, p) := consume p1 w false
  if !ok then ⟨.error, s, 1, p⟩ else ⟨tok, s, 1 + w, p⟩

/-- string / bytes: a length of `w` bytes in shortest form and not negative, then that many bytes -/
def blobTok (tok : Tok) (p1 : Parser) (w : Nat) : Cls :=
  let (ok, s, p) := consume p1 w false
  if !ok then ⟨.error, s, 1, p⟩ else
  let p := p.touchBuf s.off s.len
  let lv := parseIntVal p s
  if !intBoundsOk lv w then ⟨.error, s, 1 + w, { p with err := .format }⟩ else
  if !(0 ≤ lv ∧ lv ≤ 2147483647) then ⟨.error, s, 1 + w, { p with err := .format }⟩ else
  let (ok, s2, p) := consume p lv.toNat false
  if !ok then ⟨.error, s2, 1 + w, p⟩ else ⟨tok, s2, 1 + w + lv.toNat, p⟩

theorem processOne_eq (p : Parser) (b0 : UInt8) :
    processOne p b0 =
      if b0 = 0x44 ∨ b0 = 0x45 then ⟨.boolean, ⟨p.used, 1⟩, 1, { p with used := p.used + 1 }⟩
      else if b0 = 0x46 then fixedTok .double { p with used := p.used + 1 } 8
      else if b0 = 0x10 ∨ b0 = 0x11 ∨ b0 = 0x12 ∨ b0 = 0x13 then
        fixedTok .integer { p with used := p.used + 1 } (2 ^ (b0.toNat % 4))
      else if b0 = 0x14 ∨ b0 = 0x15 ∨ b0 = 0x16 ∨ b0 = 0x18 ∨ b0 = 0x19 ∨ b0 = 0x1a then
        blobTok (if b0.toNat < 0x18 then .string else .bytes) { p with used := p.used + 1 } (2 ^ (b0.toNat % 4))
      else ⟨.error, ⟨p.used, 1⟩, 1, { p with used := p.used + 1, err := .format }⟩ := rfl

theorem fixedTok_eq (tok : Tok) {p1 : Parser} (h1 : Shape p1) {w : Nat} (hw : w ≤ 8) :
    fixedTok tok p1 w =
      if p1.used + w ≤ p1.size then ⟨tok, ⟨p1.used, w⟩, 1 + w, { p1 with used := p1.used + w }⟩
      else ⟨.error, ⟨0, 0⟩, 1, { p1 with err := .range }⟩ := by
  unfold fixedTok
  by_cases hf : p1.used + w ≤ p1.size
  · rw [if_pos hf, consume_ok h1 w false (by omega) hf]; rfl
  · rw [if_neg hf, consume_fail h1 w false (by omega) hf]; rfl

theorem blobTok_eq (tok : Tok) {p1 : Parser} (h1 : Shape p1) {w : Nat} (hw : w ≤ 8) {n : Int}
    (hn : parseIntVal p1 ⟨p1.used, w⟩ = n) :
    blobTok tok p1 w =
      if p1.used + w ≤ p1.size then
        if intBoundsOk n w = true ∧ 0 ≤ n ∧ n ≤ 2147483647 then
          if p1.used + w + n.toNat ≤ p1.size then
            ⟨tok, ⟨p1.used + w, n.toNat⟩, 1 + w + n.toNat, { p1 with used := p1.used + w + n.toNat }⟩
          else ⟨.error, ⟨0, 0⟩, 1 + w, { p1 with used := p1.used + w, err := .range }⟩
        else ⟨.error, ⟨p1.used, w⟩, 1 + w, { p1 with used := p1.used + w, err := .format }⟩
      else ⟨.error, ⟨0, 0⟩, 1, { p1 with err := .range }⟩ := by
  unfold blobTok
  by_cases hf : p1.used + w ≤ p1.size
  · have h2 : Shape { p1 with used := p1.used + w } := h1.withUsed _ hf
    have htb : ({ p1 with used := p1.used + w } : Parser).touchBuf p1.used w = { p1 with used := p1.used + w } :=
      touchBuf_of_le (by show p1.used + w ≤ p1.buf.size; rw [h1.hbs]; exact hf)
    have hn2 : parseIntVal { p1 with used := p1.used + w } ⟨p1.used, w⟩ = n := (parseIntVal_congr (p := p1) (q := { p1 with used := p1.used + w }) rfl _).trans hn
    rw [if_pos hf, consume_ok h1 w false (by omega) hf]
    simp only [Bool.not_true, Bool.false_eq_true, if_false, htb, hn2]
    by_cases hb : intBoundsOk n w = true
    · by_cases hr : 0 ≤ n ∧ n ≤ 2147483647
      · rw [if_pos (And.intro hb hr)]
        simp only [hb, hr, and_self, decide_true, Bool.not_true, Bool.false_eq_true, if_false]
        by_cases hf2 : p1.used + w + n.toNat ≤ p1.size
        · rw [if_pos hf2, consume_ok h2 n.toNat false (by omega) hf2]; rfl
        · rw [if_neg hf2, consume_fail h2 n.toNat false (by omega) hf2]; rfl
      · rw [if_neg (show ¬ (intBoundsOk n w = true ∧ 0 ≤ n ∧ n ≤ 2147483647) from fun h => hr h.2)]
        simp only [hb, hr, decide_false, Bool.not_true, Bool.not_false, Bool.false_eq_true, if_false, if_true]
    · rw [if_neg (show ¬ (intBoundsOk n w = true ∧ 0 ≤ n ∧ n ≤ 2147483647) from fun h => hb h.1)]
      simp only [hb, Bool.not_false, if_true]
  · rw [if_neg hf, consume_fail h1 w false (by omega) hf]; rfl

theorem fixedTok_out {p : Parser} (h : Shape p) (hu : p.used < p.size) {tok : Tok} (hbe : tok.isBeginEnd = false)
    (hne : tok ≠ .error) (hnf : tok ≠ .fieldName) {w : Nat} (hw : w ≤ 8) (bc0 : Nat) :
    ScalarOut p bc0 (fixedTok tok { p with used := p.used + 1 } w) := by
  rw [fixedTok_eq tok (shape_used1 h hu) hw]
  by_cases hf : p.used + 1 + w ≤ p.size
  · rw [if_pos hf]
    exact ScalarOut.tok h hbe hne hnf (s := ⟨p.used + 1, w⟩) hf (Nat.le_add_right 1 w) (Nat.add_assoc ..) hf bc0
  · rw [if_neg hf]
    exact ScalarOut.err h (Nat.le_add_right _ 1) hu .range (by decide) _ _ _

theorem blobTok_out {p : Parser} (h : Shape p) (hu : p.used < p.size) {tok : Tok} (hbe : tok.isBeginEnd = false)
    (hne : tok ≠ .error) (hnf : tok ≠ .fieldName) {w : Nat} (hw : w ≤ 8) (bc0 : Nat) :
    ScalarOut p bc0 (blobTok tok { p with used := p.used + 1 } w) := by
  rw [blobTok_eq tok (shape_used1 h hu) hw rfl]
  generalize parseIntVal { p with used := p.used + 1 } ⟨p.used + 1, w⟩ = n
  by_cases hf : p.used + 1 + w ≤ p.size
  · rw [if_pos hf]
    split
    · by_cases hf2 : p.used + 1 + w + n.toNat ≤ p.size
      · rw [if_pos hf2]
        exact ScalarOut.tok h hbe hne hnf (s := ⟨p.used + 1 + w, n.toNat⟩) hf2 (bc := 1 + w + n.toNat) (by omega)
          (by omega) hf2 bc0
      · rw [if_neg hf2]
        exact ScalarOut.err h (by omega) hf .range (by decide) _ _ _
    · exact ScalarOut.err h (by omega) hf .format (by decide) _ _ _
  · rw [if_neg hf]
    exact ScalarOut.err h (Nat.le_add_right _ 1) hu .range (by decide) _ _ _

theorem processOne_out {p : Parser} (h : Shape p) (hu : p.used < p.size) (b0 : UInt8) (bc0 : Nat) :
    ScalarOut p bc0 (processOne p b0) := by
  have hw := pow_mod4_le b0
  rw [processOne_eq]
  by_cases hbool : b0 = 0x44 ∨ b0 = 0x45
  · rw [if_pos hbool]
    exact ScalarOut.tok h rfl (by decide) (by decide) (s := ⟨p.used, 1⟩) hu (Nat.le_refl 1) rfl hu bc0
  rw [if_neg hbool]
  by_cases hdbl : b0 = 0x46
  · rw [if_pos hdbl]
    exact fixedTok_out h hu rfl (by decide) (by decide) (Nat.le_refl 8) bc0
  rw [if_neg hdbl]
  by_cases hint : b0 = 0x10 ∨ b0 = 0x11 ∨ b0 = 0x12 ∨ b0 = 0x13
  · rw [if_pos hint]
    exact fixedTok_out h hu rfl (by decide) (by decide) hw bc0
  rw [if_neg hint]
  by_cases hblob : b0 = 0x14 ∨ b0 = 0x15 ∨ b0 = 0x16 ∨ b0 = 0x18 ∨ b0 = 0x19 ∨ b0 = 0x1a
  · rw [if_pos hblob]
    by_cases hstr : b0.toNat < 0x18
    · rw [if_pos hstr]
      exact blobTok_out h hu rfl (by decide) (by decide) hw bc0
    · rw [if_neg hstr]
      exact blobTok_out h hu rfl (by decide) (by decide) hw bc0
  · rw [if_neg hblob]
    exact ScalarOut.err h (Nat.le_add_right _ 1) hu .format (by decide) _ _ _

theorem processOne_spec {p : Parser} (h : Shape p) (hu : p.used < p.size) (b0 : UInt8) (bc0 : Nat) :
    ((processOne p b0).tok = .error ∧ ClsErr p (processOne p b0)) ∨
    ((processOne p b0).tok ≠ .error ∧ (processOne p b0).tok.isBeginEnd = false ∧ ClsOk p bc0 (processOne p b0)) := by
  obtain ⟨hbe, _, r⟩ := processOne_out h hu b0 bc0
  rcases r with ⟨e, c⟩ | ⟨e, c⟩
  · exact Or.inl ⟨e, c⟩
  · exact Or.inr ⟨e, hbe, c⟩

theorem SpansOk_ctype {n : Nat} {l : Level} (h : l.SpansOk n) (t : Ty) : ({ l with ctype := t } : Level).SpansOk n := h

theorem classify_peek {p : Parser} (h : Shape p) (hu : p.used < p.size) (bc0 : Nat) :
    classify p bc0 =
      if p.byte p.used = 0x40 then ⟨.objBegin, ⟨p.used, 1⟩, bc0, p.setLvl p.lvlIdx { p.getLvl p.lvlIdx with ctype := .object }⟩
      else if p.byte p.used = 0x41 then ⟨.objEnd, ⟨p.used, 1⟩, bc0, p⟩
      else if p.byte p.used = 0x42 then ⟨.arrBegin, ⟨p.used, 1⟩, bc0, p.setLvl p.lvlIdx { p.getLvl p.lvlIdx with ctype := .array }⟩
      else if p.byte p.used = 0x43 then ⟨.arrEnd, ⟨p.used, 1⟩, bc0, p⟩
      else processOne p (p.byte p.used) := by
  have hli := h.lvlIdx_lt
  have hsz := h.hsz
  unfold classify
  simp only [touchLvl_of_lt hli]
  rw [consume_ok h 1 true (by omega) (by omega)]
  simp only [Bool.not_true, Bool.false_eq_true, if_false, if_true]
  have htb : p.touchBuf p.used 1 = p := touchBuf_of_le (by rw [h.hbs]; omega)
  simp only [htb]

theorem classify_out {p : Parser} (h : Shape p) (he : p.err = .none) (bc0 : Nat) : ClsOut p bc0 (classify p bc0) := by
  have hli := h.lvlIdx_lt
  by_cases hu : p.used < p.size
  · -- END tokens leave the parser alone, BEGIN tokens write `current_type` of the level at the cursor
    have hne : ∀ tok : Tok, tok.isBeginEnd = true → tok ≠ .error ∧ tok ≠ .fieldName := fun tok hb =>
      ⟨fun e => (by subst e; cases hb), fun e => (by subst e; cases hb)⟩
    have hend : ∀ tok : Tok, tok.isBeginEnd = true → ClsOut p bc0 ⟨tok, ⟨p.used, 1⟩, bc0, p⟩ := fun tok hb =>
      ⟨Nat.le_refl _, Or.inr ⟨(hne tok hb).1, h, rfl, Parser.SameFrame.refl p, hu, (hne tok hb).2,
        fun _ => ⟨rfl, rfl, rfl, hu⟩, fun hb' => absurd (hb.symm.trans hb') (by decide), fun _ => rfl⟩⟩
    have hbegin : ∀ (tok : Tok) (t : Ty), tok.isBeginEnd = true →
        ClsOut p bc0 ⟨tok, ⟨p.used, 1⟩, bc0, p.setLvl p.lvlIdx { p.getLvl p.lvlIdx with ctype := t }⟩ := by
      intro tok t hb
      have hs := h.setLvl _ hli (SpansOk_ctype (h.hsp he p.lvlIdx) t)
      have hl := getLvl_setLvl (p := p) { p.getLvl p.lvlIdx with ctype := t } hli
      rw [setLvl_of_lt _ hli] at hs hl ⊢
      refine ⟨Nat.le_refl _, Or.inr ⟨(hne tok hb).1, hs, rfl, ⟨rfl, rfl, rfl, rfl, rfl, rfl, by simp⟩, hu, (hne tok hb).2,
        fun _ => ⟨rfl, rfl, rfl, hu⟩, fun hb' => absurd (hb.symm.trans hb') (by decide), fun i => ?_⟩⟩
      dsimp only
      rw [hl i]
      by_cases hi : i = p.lvlIdx
      · rw [if_pos hi, hi]
      · rw [if_neg hi]
    rw [classify_peek h hu]
    by_cases h0 : p.byte p.used = 0x40
    · rw [if_pos h0]; exact hbegin _ _ rfl
    by_cases h1 : p.byte p.used = 0x41
    · rw [if_neg h0, if_pos h1]; exact hend _ rfl
    by_cases h2 : p.byte p.used = 0x42
    · rw [if_neg h0, if_neg h1, if_pos h2]; exact hbegin _ _ rfl
    by_cases h3 : p.byte p.used = 0x43
    · rw [if_neg h0, if_neg h1, if_neg h2, if_pos h3]; exact hend _ rfl
    · rw [if_neg h0, if_neg h1, if_neg h2, if_neg h3]; exact (processOne_out h hu _ bc0).2
  · have hsz := h.hsz
    unfold classify
    simp only [touchLvl_of_lt hli]
    rw [consume_fail h 1 true (by omega) (by omega)]
    exact (ScalarOut.err h (Nat.le_refl _) h.hus .range (by decide) _ _ _).2

theorem classify_spec {p : Parser} (h : Shape p) (he : p.err = .none) (bc0 : Nat) :
    ((classify p bc0).tok = .error ∧ ClsErr p (classify p bc0)) ∨
    ((classify p bc0).tok ≠ .error ∧ ClsOk p bc0 (classify p bc0)) :=
  (classify_out h he bc0).2

end Binson
