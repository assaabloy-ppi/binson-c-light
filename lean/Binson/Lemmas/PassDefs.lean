/-
  Layer 3: vocabulary of the pass-through lemma - when the loop is strictly below the
  level the call started at and in a mode that keeps going, a whole encoded value is consumed.
-/
import Binson.Lemmas.Advance
import Binson.Lemmas.Views
namespace Binson

/-- scan modes in which the loop keeps going after a token below the originating level -/
def Cont (s : Option Scan) : Prop :=
  s = some .verify ∨ s = some .leaveObj ∨ s = some .value ∨ s = some .leaveArr

theorem Cont.has_objBegin {s : Option Scan} (h : Cont s) : has s [.verify, .enterObj, .value, .leaveArr, .leaveObj] = true := by
  rcases h with rfl | rfl | rfl | rfl <;> rfl
theorem Cont.has_arrBegin {s : Option Scan} (h : Cont s) : has s [.verify, .value, .enterArr, .leaveArr, .leaveObj] = true := by
  rcases h with rfl | rfl | rfl | rfl <;> rfl
theorem Cont.has_objEnd {s : Option Scan} (h : Cont s) : has s [.verify, .leaveObj, .value, .leaveArr] = true := by
  rcases h with rfl | rfl | rfl | rfl <;> rfl
theorem Cont.has_arrEnd {s : Option Scan} (h : Cont s) : has s [.verify, .value, .leaveArr, .leaveObj] = true := by
  rcases h with rfl | rfl | rfl | rfl <;> rfl
theorem Cont.clear_enterObj {s : Option Scan} (h : Cont s) : clear s .enterObj = s := by
  rcases h with rfl | rfl | rfl | rfl <;> rfl
theorem Cont.clear_enterArr {s : Option Scan} (h : Cont s) : clear s .enterArr = s := by
  rcases h with rfl | rfl | rfl | rfl <;> rfl

/-- the level a value sits in expects a value: after a field name in an object, or inside an array -/
def ValCtx (l : Level) : Prop :=
  (l.flags = .expValue ∧ l.ad = 0) ∨ ((l.flags = .arr1 ∨ l.flags = .arr2) ∧ 1 ≤ l.ad)

/-- the flags of the level after the value: a field is complete / the array state, reset to
    IN_ARRAY_1 when a nested array has been closed -/
def afterFlags (l : Level) (isArr : Bool) : Flags :=
  if l.flags = .expValue then .expField else if isArr then .arr1 else l.flags

def Value.isArr : Value → Bool
  | .arr _ => true
  | _ => false

/-- the loop state is below the originating level `(od, oa)`, error-free, in a continuing mode -/
structure Deep (st : LoopSt) (oa od : Nat) : Prop where
  shape : Shape st.p
  err : st.p.err = .none
  cont : Cont st.scan
  d1 : 1 ≤ st.p.depth
  deeper : od < st.p.depth ∨ (od = st.p.depth ∧ oa < (st.p.getLvl st.p.lvlIdx).ad)
  zeros : ∀ i, st.p.depth ≤ i → st.p.getLvl i = Level.zero
  rootArr : st.p.ptype = 2 → st.p.depth = 1 → 1 ≤ (st.p.getLvl st.p.lvlIdx).ad
  md255 : st.p.maxDepth ≤ 255

/-- `st'` is `st` after `len` more bytes have been consumed by iterations that did not touch the
    levels below index `k`, logging callbacks with views `views` -/
structure Moved (k : Nat) (st st' : LoopSt) (len : Nat) (views : List EvView) : Prop where
  shape : Shape st'.p
  err : st'.p.err = .none
  used : st'.p.used = st.p.used + len
  scan : st'.scan = st.scan
  frame : st.p.Frame st'.p
  lower : ∀ i, i < k → st'.p.getLvl i = st.p.getLvl i
  ev : ∃ new : List Event, st'.ev = new ++ st.ev ∧ new.reverse.map (view st.p.buf) = views

theorem Moved.trans {k : Nat} {a b c : LoopSt} {l1 l2 : Nat} {v1 v2 : List EvView}
    (h1 : Moved k a b l1 v1) (h2 : Moved k b c l2 v2) : Moved k a c (l1 + l2) (v1 ++ v2) := by
  refine ⟨h2.shape, h2.err, by rw [h2.used, h1.used]; omega, h2.scan.trans h1.scan, h1.frame.trans h2.frame, ?_, ?_⟩
  · intro i hlt; rw [h2.lower i hlt, h1.lower i hlt]
  · obtain ⟨n1, e1, w1⟩ := h1.ev
    obtain ⟨n2, e2, w2⟩ := h2.ev
    refine ⟨n2 ++ n1, by rw [e2, e1, List.append_assoc], ?_⟩
    rw [List.reverse_append, List.map_append, w1, ← h1.frame.2.1, w2]

theorem Moved.mono {k k' : Nat} {a b : LoopSt} {l : Nat} {v : List EvView} (h : Moved k a b l v) (hk : k' ≤ k) : Moved k' a b l v :=
  ⟨h.shape, h.err, h.used, h.scan, h.frame, fun i hi => h.lower i (Nat.lt_of_lt_of_le hi hk), h.ev⟩

/-- `st'` is `st` after exactly one value / element list / field list of the level `lvlIdx` has been consumed -/
structure Passed (st st' : LoopSt) (len : Nat) (views : List EvView) : Prop where
  moved : Moved st.p.lvlIdx st st' len views
  depth : st'.p.depth = st.p.depth
  zeros : ∀ i, st.p.depth ≤ i → st'.p.getLvl i = Level.zero

theorem Parser.lvlIdx_of_pos {p : Parser} (h : 1 ≤ p.depth) : p.lvlIdx = p.depth - 1 := by
  unfold Parser.lvlIdx; split <;> omega

theorem Parser.lvlIdx_lt {p : Parser} (h : 1 ≤ p.depth) : p.lvlIdx < p.depth := by
  rw [Parser.lvlIdx_of_pos h]; exact Nat.sub_lt h Nat.one_pos

end Binson
