/-
  Traversal on ARBITRARY bytes: the depth-balance of the C++ `deserialize` recursion.
  Whenever `deseralizeItem` / `deseralizeItems` / the array loop return normally, either the
  buffer is a well-formed document anyway (`Accept`), or the parser is error-free at the depth
  it had on entry - by induction on the fuel, from the per-call facts of the traversal modes
  (WalkMode*.lean) and the C08 invariant `Inv`, which every navigation call preserves.
-/
import Binson.Lemmas.Stream
import Binson.Lemmas.WalkModeLO
import Binson.Lemmas.WalkModeEnter
import Binson.Lemmas.WalkModeV
import Binson.Lemmas.WalkModeLA
import Binson.Model.Cpp
namespace Binson

theorem walk_getName_noerr (p : Parser) (h : (getName p).1.err = .none) : (getName p).1 = p ∧ p.err = .none := by
  unfold getName at h ⊢
  by_cases he : p.err ≠ .none
  · rw [if_pos he] at h ⊢; exact absurd h he
  · rw [if_neg he] at h ⊢
    have he' : p.err = .none := Classical.not_not.mp he
    cases hn : (p.getLvl p.cur).name with
    | some s => exact ⟨rfl, he'⟩
    | none => rw [hn] at h; cases h

/-! ### what a normal return of the recursion went through -/

/-- `if (!ok) throw ...; x` returned normally -/
theorem walk_guard {α : Type} {b : Bool} {e : String} {x : Except String α} {y : α}
    (h : (if !b then Except.error e else x) = .ok y) : b = true ∧ x = .ok y := by
  cases b
  · cases h
  · exact ⟨rfl, h⟩

/-- `deseralizeItem`: no error was pending; a scalar leaves the parser as it is, a container was
    entered, traversed and left, each of the two calls returning true -/
theorem cppDesItem_ok {f : Nat} {p p' : Parser} {v : Value} (h : cppDesItem (f + 1) p = .ok (v, p')) :
    p.err = .none ∧
    (p' = p ∨
     (getType p = .object ∧ (goIntoObject p).2 = true ∧ ∃ fs p2, cppDesItems f (goIntoObject p).1 .nil = .ok (fs, p2) ∧
        (leaveObject p2).2 = true ∧ p' = (leaveObject p2).1) ∨
     ((goIntoArray p).2 = true ∧ ∃ xs p2, cppDesElems f (goIntoArray p).1 = .ok (xs, p2) ∧
        (leaveArray p2).2 = true ∧ p' = (leaveArray p2).1)) := by
  rw [cppDesItem] at h
  by_cases hne : p.err ≠ .none
  · rw [if_pos hne] at h; cases h
  have he : p.err = .none := Classical.not_not.mp hne
  simp only [he, ne_eq, not_true_eq_false, if_false] at h
  refine ⟨he, ?_⟩
  cases ht : getType p with
  | boolean | integer | double =>
    rw [ht] at h
    simp only [Except.ok.injEq, Prod.mk.injEq] at h
    exact Or.inl h.2.symm
  | string | bytes =>
    rw [ht] at h
    simp only at h
    split at h
    · simp only [Except.ok.injEq, Prod.mk.injEq] at h
      exact Or.inl h.2.symm
    · cases h
  | object =>
    rw [ht] at h
    obtain ⟨hg, h⟩ := walk_guard h
    cases hr : cppDesItems f (goIntoObject p).1 .nil with
    | error e => rw [hr] at h; cases h
    | ok r =>
      obtain ⟨fs, p2⟩ := r
      rw [hr] at h
      obtain ⟨hl, h⟩ := walk_guard h
      simp only [Except.ok.injEq, Prod.mk.injEq] at h
      exact Or.inr (Or.inl ⟨rfl, hg, fs, p2, rfl, hl, h.2.symm⟩)
  | array =>
    rw [ht] at h
    obtain ⟨hg, h⟩ := walk_guard h
    cases hr : cppDesElems f (goIntoArray p).1 with
    | error e => rw [hr] at h; cases h
    | ok r =>
      obtain ⟨xs, p2⟩ := r
      rw [hr] at h
      obtain ⟨hl, h⟩ := walk_guard h
      simp only [Except.ok.injEq, Prod.mk.injEq] at h
      exact Or.inr (Or.inr ⟨hg, xs, p2, rfl, hl, h.2.symm⟩)
  | none | objectEnd | arrayEnd =>
    rw [ht] at h
    cases h

/-- `deseralizeItems`: `next` returned false without an error, or true, and then `get_name` raised no
    error, the value was read and the loop went on -/
theorem cppDesItems_ok {f : Nat} {p p' : Parser} {acc fs : Fields} (h : cppDesItems (f + 1) p acc = .ok (fs, p')) :
    ((next p).2 = false ∧ (next p).1.err = .none ∧ p' = (next p).1) ∨
    ((next p).2 = true ∧ (getName (next p).1).1.err = .none ∧ ∃ s v p2,
      cppDesItem f (getName (next p).1).1 = .ok (v, p2) ∧
      cppDesItems f p2 (mapPut acc ((getName (next p).1).1.slice s) v) = .ok (fs, p')) := by
  rw [cppDesItems] at h
  cases hn : (next p).2 with
  | false =>
    simp only [hn, Bool.not_false, if_true] at h
    by_cases hne : (next p).1.err = .none
    · simp only [hne, ne_eq, not_true_eq_false, if_false, Except.ok.injEq, Prod.mk.injEq] at h
      exact Or.inl ⟨rfl, hne, h.2.symm⟩
    · simp only [hne, ne_eq, not_false_eq_true, if_true] at h; cases h
  | true =>
    simp only [hn, Bool.not_true, Bool.false_eq_true, if_false] at h
    by_cases hgne : (getName (next p).1).1.err ≠ .none
    · rw [if_pos hgne] at h; cases h
    have hge : (getName (next p).1).1.err = .none := Classical.not_not.mp hgne
    simp only [hge, ne_eq, not_true_eq_false, if_false] at h
    cases hgn : (getName (next p).1).2 with
    | none => rw [hgn] at h; cases h
    | some s =>
      rw [hgn] at h
      simp only at h
      cases hr : cppDesItem f (getName (next p).1).1 with
      | error e => rw [hr] at h; cases h
      | ok r =>
        rw [hr] at h
        exact Or.inr ⟨rfl, hge, s, r.1, r.2, rfl, h⟩

/-- the array loop: `next` returned false, or true, and then the element was read and the loop went on -/
theorem cppDesElems_ok {f : Nat} {p p' : Parser} {xs : Elems} (h : cppDesElems (f + 1) p = .ok (xs, p')) :
    ((next p).2 = false ∧ p' = (next p).1) ∨
    ((next p).2 = true ∧ ∃ v p2 xs2, cppDesItem f (next p).1 = .ok (v, p2) ∧ cppDesElems f p2 = .ok (xs2, p')) := by
  rw [cppDesElems] at h
  cases hn : (next p).2 with
  | false =>
    simp only [hn, Bool.not_false, if_true, Except.ok.injEq, Prod.mk.injEq] at h
    exact Or.inl ⟨rfl, h.2.symm⟩
  | true =>
    simp only [hn, Bool.not_true, Bool.false_eq_true, if_false] at h
    cases hr : cppDesItem f (next p).1 with
    | error e => rw [hr] at h; cases h
    | ok r =>
      rw [hr] at h
      simp only at h
      cases hr2 : cppDesElems f r.2 with
      | error e => rw [hr2] at h; cases h
      | ok r2 =>
        rw [hr2] at h
        simp only [Except.ok.injEq, Prod.mk.injEq] at h
        exact Or.inr ⟨rfl, r.1, r.2, r2.1, rfl, by rw [hr2, ← h.2]⟩

section
variable {buf : Array UInt8} {md : Nat}

/-- an invariant, error-free state at depth >= 1 of an object document: the open arrays of the
    current entry are counted and its flags word is one the loop wrote -/
theorem walk_inv_arr {p : Parser} (hI : Inv buf md 1 p) (he : p.err = .none) (hd : 1 ≤ p.depth) :
    Accept buf md 1 ∨
    ((p.getLvl p.lvlIdx).flags.inArray = true → 1 ≤ (p.getLvl p.lvlIdx).ad ∧ NoJunk (p.getLvl p.lvlIdx).flags) := by
  rcases hI.res with h | hF | ⟨gs, hZ⟩ | ⟨_, hacc⟩
  · exact absurd he h
  · have := hF.depth; omega
  · right
    obtain ⟨g, rest, rfl⟩ := List.exists_cons_of_ne_nil hZ.ne
    have hT := hZ.top
    intro hin
    rw [hT.idx] at hin ⊢
    refine ⟨?_, hT.lv.noJunk hT.ok⟩
    rcases hT.lv.cases hT.ok with ⟨_, _, h3⟩ | ⟨_, _, h3, _⟩ | ⟨_, _, h3, _⟩
    · exact h3
    · rw [h3] at hin; cases hin
    · rw [h3] at hin; cases hin
  · exact Or.inl hacc

/-- the walk's checkpoint: invariant, no error, depth `d` -/
def WalkAt (buf : Array UInt8) (md : Nat) (p : Parser) (d : Nat) : Prop := Inv buf md 1 p ∧ p.err = .none ∧ p.depth = d

theorem walk_bal (f : Nat) :
    (∀ (p : Parser) (v : Value) (p' : Parser) (d : Nat), cppDesItem f p = .ok (v, p') → WalkAt buf md p d → 1 ≤ d → walkPend p →
      Accept buf md 1 ∨ WalkAt buf md p' d) ∧
    (∀ (p : Parser) (acc fs : Fields) (p' : Parser) (d : Nat), cppDesItems f p acc = .ok (fs, p') → WalkAt buf md p d → 1 ≤ d →
      Accept buf md 1 ∨ WalkAt buf md p' d) ∧
    (∀ (p : Parser) (xs : Elems) (p' : Parser) (d : Nat), cppDesElems f p = .ok (xs, p') → WalkAt buf md p d → 1 ≤ d →
      Accept buf md 1 ∨ (Inv buf md 1 p' ∧ (p'.err = .none → p'.depth = d))) := by
  induction f with
  | zero =>
    refine ⟨fun p v p' d h => ?_, fun p acc fs p' d h => ?_, fun p xs p' d h => ?_⟩
    · rw [cppDesItem] at h; cases h
    · rw [cppDesItems] at h; cases h
    · rw [cppDesElems] at h; cases h
  | succ f ih =>
    obtain ⟨ihV, ihF, ihE⟩ := ih
    refine ⟨fun p v p' d h hW hd hP => ?_, fun p acc fs p' d h hW hd => ?_, fun p xs p' d h hW hd => ?_⟩
    · -- deseralizeItem
      obtain ⟨hI, he, hdp⟩ := hW
      have hs := hI.shape
      rcases (cppDesItem_ok h).2 with rfl | ⟨ht, hg, fs, p2, hr, hl, rfl⟩ | ⟨hg, xs, p2, hr, hl, rfl⟩
      · exact Or.inr ⟨hI, he, hdp⟩
      · have hct : (p.getLvl p.cur).ctype = .object := by
          unfold getType at ht; rw [if_pos he] at ht; exact ht
        obtain ⟨rs, hrem⟩ := hP hct
        obtain ⟨g1, g2⟩ := walk_goIntoObject_true p hs he rs hrem hg
        rcases ihF _ _ _ _ (d + 1) hr ⟨advance_inv p .enterObj none hI, g1, by rw [g2, hdp]⟩ (by omega) with hacc | ⟨i2, e2, d2⟩
        · exact Or.inl hacc
        · obtain ⟨_, l1, l2, _⟩ := walk_leaveObject_true p2 i2.shape i2.hpt (by omega) hl
          exact Or.inr ⟨leaveObject_inv p2 i2, l1, by omega⟩
      · obtain ⟨_, g1, g2⟩ := walk_goIntoArray_true p hs hg
        rcases ihE _ _ _ d hr ⟨advance_inv p .enterArr none hI, g1, by rw [g2, hdp]⟩ hd with hacc | ⟨i2, d2⟩
        · exact Or.inl hacc
        · -- `leave_array` returned true, so no error was pending before it
          have he2 : p2.err = .none :=
            (walk_leave_true (by unfold leaveArray; rw [touchLvl_of_lt i2.shape.lvlIdx_lt]) hl).2.1
          have hd2 := d2 he2
          rcases walk_inv_arr i2 he2 (by omega) with hacc | had
          · exact Or.inl hacc
          · obtain ⟨_, l1, l2⟩ := walk_leaveArray_true p2 i2.shape i2.hpt (by omega) had hl
            exact Or.inr ⟨leaveArray_inv p2 i2, l1, by omega⟩
    · -- deseralizeItems
      obtain ⟨hI, he, hdp⟩ := hW
      obtain ⟨n1, n2⟩ := walk_next_post p hI.shape he hI.hpt
      have nI : Inv buf md 1 (next p).1 := next_inv p hI
      rcases cppDesItems_ok h with ⟨_, hne, rfl⟩ | ⟨hn, hge, s, v, p2, hr, h'⟩
      · exact Or.inr ⟨nI, hne, by rw [n1 hne, hdp]⟩
      · obtain ⟨ne, nP⟩ := n2 hn
        rw [(walk_getName_noerr _ hge).1] at hr
        rcases ihV _ _ _ d hr ⟨nI, ne, by rw [n1 ne, hdp]⟩ hd nP with hacc | w2
        · exact Or.inl hacc
        · exact ihF _ _ _ _ d h' w2 hd
    · -- the array loop
      obtain ⟨hI, he, hdp⟩ := hW
      obtain ⟨n1, n2⟩ := walk_next_post p hI.shape he hI.hpt
      have nI : Inv buf md 1 (next p).1 := next_inv p hI
      rcases cppDesElems_ok h with ⟨_, rfl⟩ | ⟨hn, v, p2, xs2, hr, hr2⟩
      · exact Or.inr ⟨nI, fun hne => by rw [n1 hne, hdp]⟩
      · obtain ⟨ne, nP⟩ := n2 hn
        rcases ihV _ _ _ d hr ⟨nI, ne, by rw [n1 ne, hdp]⟩ hd nP with hacc | w2
        · exact Or.inl hacc
        · exact ihE _ _ _ d hr2 w2 hd

end
end Binson
