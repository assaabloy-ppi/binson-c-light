/-
  Traversal on ARBITRARY bytes: what one pass through the loop body guarantees according
  to the way it ends (`WalkPost`), from the facts about its `switch` in a given scan mode.
-/
import Binson.Lemmas.StreamStep2
namespace Binson

/-! ### projections through the elementary updates -/

theorem walk_touchLvl_err (p : Parser) (i : Nat) : (p.touchLvl i).err = p.err := by
  rw [Parser.touchLvl_eq]
theorem walk_touchLvl_size (p : Parser) (i : Nat) : (p.touchLvl i).size = p.size := by
  rw [Parser.touchLvl_eq]
theorem walk_touchLvl_ptype (p : Parser) (i : Nat) : (p.touchLvl i).ptype = p.ptype := by
  rw [Parser.touchLvl_eq]
theorem walk_touchBuf_ptype (p : Parser) (o n : Nat) : (p.touchBuf o n).ptype = p.ptype := by
  rw [Parser.touchBuf_eq]
theorem walk_touchName_used (p : Parser) (n : Option Span) : (touchName p n).used = p.used := by
  rw [touchName_eq]
theorem walk_touchName_lsize (p : Parser) (n : Option Span) : (touchName p n).levels.size = p.levels.size := by
  rw [touchName_eq]

/-! ### the scan word through the array toggle -/

theorem walk_arrBlock_scan (lv : Level) (tok : Tok) (b : Bool) (s : Option Scan) :
    (arrBlock lv tok b s).2 = s ∨ ((arrBlock lv tok b s).2 = clear s .value ∧ lv.flags.inArray = true ∧ b = true) := by
  rcases arrBlock_cases lv tok b s with ⟨_, e⟩ | ⟨h, hb, ⟨_, _, e⟩ | ⟨_, _, e⟩ | ⟨_, e⟩⟩ <;> rw [e]
  · exact Or.inl rfl
  · exact Or.inr ⟨rfl, h, hb⟩
  · exact Or.inl rfl
  · exact Or.inr ⟨rfl, h, hb⟩

theorem walk_clear_ne (s : Option Scan) (x : Scan) (h : s ≠ some x) : clear s x = s := by
  unfold clear; rw [if_neg h]

theorem walk_arrBlock_scan_ne (lv : Level) (tok : Tok) (b : Bool) (s : Option Scan) (h : s ≠ some .value) :
    (arrBlock lv tok b s).2 = s := by
  rcases walk_arrBlock_scan lv tok b s with e | ⟨e, _⟩
  · exact e
  · rw [e, walk_clear_ne s _ h]

/-! ### outcome of one pass through the loop body, by the way it ends -/

/-- `C` holds if the loop goes on, `S` if it stops normally, `R` if the body returns (always `false`) -/
def WalkPost (r : LoopSt × Out) (C : Parser → Option Scan → Prop) (S : Parser → Prop) (R : Parser → Prop) : Prop :=
  (r.2 = .cont → C r.1.p r.1.scan) ∧ (r.2 = .stop → S r.1.p) ∧ (∀ b, r.2 = .ret b → b = false ∧ R r.1.p)

theorem WalkPost.cont {r : LoopSt × Out} {C : Parser → Option Scan → Prop} {S R : Parser → Prop}
    (h : r.2 = .cont) (hC : C r.1.p r.1.scan) : WalkPost r C S R := by
  unfold WalkPost; rw [h]
  exact ⟨fun _ => hC, fun e => (nomatch e), fun _ e => (nomatch e)⟩

theorem WalkPost.stop {r : LoopSt × Out} {C : Parser → Option Scan → Prop} {S R : Parser → Prop}
    (h : r.2 = .stop) (hS : S r.1.p) : WalkPost r C S R := by
  unfold WalkPost; rw [h]
  exact ⟨fun e => (nomatch e), fun _ => hS, fun _ e => (nomatch e)⟩

theorem WalkPost.ret {r : LoopSt × Out} {C : Parser → Option Scan → Prop} {S R : Parser → Prop}
    (h : r.2 = .ret false) (hR : R r.1.p) : WalkPost r C S R := by
  unfold WalkPost; rw [h]
  exact ⟨fun e => (nomatch e), fun e => (nomatch e), fun _ e => ⟨(Out.ret.inj e).symm, hR⟩⟩

theorem walk_post_finish {C : Parser → Option Scan → Prop} {S R : Parser → Prop}
    (st : LoopSt) (tok : Tok) (p : Parser) (lv : Level) (li : Nat) (scan : Option Scan) (force : Bool)
    (hR : p.err ≠ .none → R (p.setLvl li lv))
    (hC : p.err = .none → proceed scan force = .cont → C (p.setLvl li lv) scan)
    (hS : p.err = .none → proceed scan force = .stop → S (p.setLvl li lv)) :
    WalkPost (finish st tok p lv li scan force) C S R := by
  rw [finish_eq]
  by_cases he : p.err = .none
  · rw [if_neg (fun h => h he)]
    cases hp : proceed scan force with
    | cont => exact .cont rfl (hC he hp)
    | stop => exact .stop rfl (hS he hp)
    | ret b => unfold proceed at hp; split at hp <;> cases hp
  · rw [if_pos he]
    exact .ret rfl (hR he)

/-! ### the classification stage, summarised for the traversal proofs -/

/-- a classification that did not fail: what it leaves alone, and what a BEGIN token says -/
structure WalkCls (p : Parser) (c : Cls) : Prop where
  shape : Shape c.p
  err : c.p.err = .none
  depth : c.p.depth = p.depth
  ptype : c.p.ptype = p.ptype
  cur : c.p.cur = p.cur
  buf : c.p.buf = p.buf
  lvlIdx : c.p.lvlIdx = p.lvlIdx
  tokOk : c.tok ≠ .error ∧ c.tok ≠ .fieldName
  used : p.used ≤ c.p.used
  beUsed : c.tok.isBeginEnd = true → c.p.used = p.used
  lvlNe : ∀ j, j ≠ p.lvlIdx → c.p.getLvl j = p.getLvl j
  lvlAd : (c.p.getLvl p.lvlIdx).ad = (p.getLvl p.lvlIdx).ad
  lvlFlags : (c.p.getLvl p.lvlIdx).flags = (p.getLvl p.lvlIdx).flags
  objB : c.tok = .objBegin → ∃ rs, p.rem = 0x40 :: rs
  tokObj : (∃ rs, p.rem = 0x40 :: rs) → c.tok = .objBegin
  ctyO : c.tok = .objBegin → (c.p.getLvl p.lvlIdx).ctype = .object
  ctyA : c.tok = .arrBegin → (c.p.getLvl p.lvlIdx).ctype = .array

theorem walk_classify {p : Parser} (hs : Shape p) (he : p.err = .none) (bc0 : Nat) :
    ((classify p bc0).tok = .error ∧ (classify p bc0).p.err ≠ .none) ∨ WalkCls p (classify p bc0) := by
  rcases classify_spec hs he bc0 with ⟨et, ce⟩ | ⟨et, co⟩
  · exact Or.inl ⟨et, ce.err⟩
  right
  have hli := hs.lvlIdx_lt
  obtain ⟨f1, f2, _, f4, f5, f6, _⟩ := co.frame
  -- there was a byte to classify
  have hu : p.used < p.size := by
    cases hb : (classify p bc0).tok.isBeginEnd
    · have := co.sc hb; have := co.shape.hus; omega
    · exact (co.be hb).2.2.2
  have hrem := rem_eq_cons hs hu
  -- which token it is, and what has been written, by that byte
  have byte : ((classify p bc0).tok = .objBegin ↔ p.byte p.used = 0x40) ∧
      ((classify p bc0).tok = .objBegin → ((classify p bc0).p.getLvl p.lvlIdx).ctype = .object) ∧
      ((classify p bc0).tok = .arrBegin → ((classify p bc0).p.getLvl p.lvlIdx).ctype = .array) ∧
      ∀ j, j ≠ p.lvlIdx → (classify p bc0).p.getLvl j = p.getLvl j := by
    have begin : ∀ (ty : Ty) (j : Nat), j ≠ p.lvlIdx →
        (p.setLvl p.lvlIdx { p.getLvl p.lvlIdx with ctype := ty }).getLvl j = p.getLvl j :=
      fun ty j hj => by rw [getLvl_setLvl _ hli, if_neg hj]
    rw [classify_peek hs hu bc0]
    by_cases e0 : p.byte p.used = 0x40
    · rw [if_pos e0]
      dsimp only
      exact ⟨⟨fun _ => e0, fun _ => rfl⟩, fun _ => by rw [getLvl_setLvl _ hli, if_pos rfl], (fun h => nomatch h), begin _⟩
    rw [if_neg e0]
    by_cases e1 : p.byte p.used = 0x41
    · rw [if_pos e1]
      dsimp only
      exact ⟨⟨(fun h => nomatch h), fun h => absurd h e0⟩, (fun h => nomatch h), (fun h => nomatch h), fun _ _ => rfl⟩
    rw [if_neg e1]
    by_cases e2 : p.byte p.used = 0x42
    · rw [if_pos e2]
      dsimp only
      exact ⟨⟨(fun h => nomatch h), fun h => absurd h e0⟩, (fun h => nomatch h), fun _ => by rw [getLvl_setLvl _ hli, if_pos rfl], begin _⟩
    rw [if_neg e2]
    by_cases e3 : p.byte p.used = 0x43
    · rw [if_pos e3]
      dsimp only
      exact ⟨⟨(fun h => nomatch h), fun h => absurd h e0⟩, (fun h => nomatch h), (fun h => nomatch h), fun _ _ => rfl⟩
    rw [if_neg e3]
    rcases processOne_spec hs hu (p.byte p.used) bc0 with ⟨e, c⟩ | ⟨_, hbe, c⟩
    · exact ⟨⟨fun h => absurd (h ▸ e) (by decide), fun h => absurd h e0⟩, fun h => absurd (h ▸ e) (by decide),
        fun h => absurd (h ▸ e) (by decide), fun j _ => by unfold Parser.getLvl; rw [c.levels]⟩
    · exact ⟨⟨fun h => absurd (h ▸ hbe) (by decide), fun h => absurd h e0⟩, fun h => absurd (h ▸ hbe) (by decide),
        fun h => absurd (h ▸ hbe) (by decide), fun j _ => by unfold Parser.getLvl; rw [(c.sc hbe).2.2]⟩
  obtain ⟨b1, b2, b3, b4⟩ := byte
  exact { shape := co.shape, err := co.err.trans he, depth := f2, ptype := f1, cur := f6, buf := f5,
          lvlIdx := by unfold Parser.lvlIdx; rw [f2]
          tokOk := ⟨et, co.notFieldName⟩, used := (classify_out hs he bc0).1
          beUsed := fun h => (co.be h).1
          lvlNe := b4, lvlAd := by rw [co.lvl], lvlFlags := by rw [co.lvl]
          objB := fun h => ⟨_, by rw [hrem, b1.mp h]⟩
          tokObj := fun ⟨rs, h⟩ => b1.mpr (by rw [hrem] at h; exact (List.cons.inj h).1)
          ctyO := b2, ctyA := b3 }

/-- one pass through the loop body from the facts about its `switch`: failures of the first two
    stages latch an error -/
theorem walk_iter_post {st : LoopSt} {sn : Option (List UInt8)} {oa od : Nat} (hs : Shape st.p) (he : st.p.err = .none)
    {C : Parser → Option Scan → Prop} {S R : Parser → Prop}
    (hR : ∀ q : Parser, q.err ≠ .none → R q)
    (hD : ∀ (c : Cls) (lv : Level) (tok : Tok), WalkCls st.p c → objBlock (c.p.getLvl c.p.lvlIdx) c.tok = some (lv, tok) →
      InBuf c.p (arrBlock lv tok (decide (oa = lv.ad ∧ od = c.p.depth)) st.scan).1 c.span →
      WalkPost (dispatch { st with bc := c.bc } c.p (arrBlock lv tok (decide (oa = lv.ad ∧ od = c.p.depth)) st.scan).1 c.p.lvlIdx
        (arrBlock lv tok (decide (oa = lv.ad ∧ od = c.p.depth)) st.scan).2 tok c.span c.bc sn oa od) C S R) :
    WalkPost (iter st sn oa od) C S R := by
  rw [iter_eq]
  dsimp only
  rcases walk_classify hs he st.bc with ⟨ht, hce⟩ | hC
  · rw [if_pos ht]
    exact .ret rfl (hR _ hce)
  · rw [if_neg hC.tokOk.1]
    cases hob : objBlock ((classify st.p st.bc).p.getLvl (classify st.p st.bc).p.lvlIdx) (classify st.p st.bc).tok with
    | none => exact .ret rfl (hR _ (fun h => Err.noConfusion h))
    | some r =>
      -- the token's span and the name stored in the level are inside the buffer
      obtain ⟨o1, o2, _⟩ := objBlock_spec (lv' := r.1) (tok' := r.2) hob
      obtain ⟨a1, a2, _⟩ := arrBlock_spec r.1 r.2 (decide (oa = r.1.ad ∧ od = (classify st.p st.bc).p.depth)) st.scan
      refine hD _ r.1 r.2 hC hob (inBuf_of hC.shape.hbs (SpansOk_of_fields a1 a2 (SpansOk_of_fields o1 o2 (hC.shape.hsp hC.err _))) ?_)
      rcases classify_spec hs he st.bc with ⟨et, _⟩ | ⟨_, co⟩
      · exact absurd et hC.tokOk.1
      · rw [co.frame.2.2.2.1]; exact co.span

/-- `_advance_parsing` from a mode invariant `J` on (parser, scan word) -/
theorem walk_mode_adv (p : Parser) (hs : Shape p) (he : p.err = .none) (scan : Scan) (sn : Option (List UInt8))
    (J : Parser → Option Scan → Prop) (S R : Parser → Prop) (h0 : J p (some scan))
    (hstep : ∀ st : LoopSt, Shape st.p → st.p.err = .none → st.p.ptype = p.ptype → J st.p st.scan →
      WalkPost (iter st sn (p.getLvl p.cur).ad p.depth) J S R) :
    S (advance p scan sn).p ∨ ((advance p scan sn).ret = false ∧ R (advance p scan sn).p) := by
  obtain ⟨st', e, hq⟩ := advance_ind p hs he scan sn
    (fun st => Shape st.p ∧ st.p.err = .none ∧ st.p.ptype = p.ptype ∧ J st.p st.scan)
    (fun st b => S st.p ∨ (b = false ∧ R st.p)) ⟨hs, he, rfl, h0⟩
    (fun st hI => by
      obtain ⟨i1, i2, i3, i4⟩ := hI
      have W := hstep st i1 i2 i3 i4
      have sp := iter_spec st sn (p.getLvl p.cur).ad p.depth i1 i2
      refine ⟨fun h => ⟨sp.shape, (sp.cont h).1, sp.frame.2.2.2.1.trans i3, W.1 h⟩, fun h => Or.inl (W.2.1 h),
        fun b h => Or.inr (W.2.2 b h)⟩)
  rw [e]
  exact hq

/-- a `leave_*` call (`b`: the current entry is of the kind asked for) that returns true: no error was pending,
    and `_advance_parsing` returned true or left no error -/
theorem walk_leave_true {p : Parser} {scan : Scan} {b : Bool} {r : Parser × Bool}
    (hr : r = if !b then (p, false) else
      if !(advance p scan none).ret then ((advance p scan none).p, decide ((advance p scan none).p.err = .none))
      else ((advance p scan none).p, true))
    (h : r.2 = true) :
    b = true ∧ p.err = .none ∧ r.1 = (advance p scan none).p ∧
      ((advance p scan none).ret = true ∨ (advance p scan none).p.err = .none) := by
  subst hr
  cases b with
  | false => cases h
  | true =>
    have he : p.err = .none := Classical.byContradiction fun he => by
      rw [advance_err p _ _ he] at h
      exact he (of_decide_eq_true h)
    cases hret : (advance p scan none).ret with
    | true => exact ⟨rfl, he, rfl, Or.inl rfl⟩
    | false => rw [hret] at h; exact ⟨rfl, he, rfl, Or.inr (of_decide_eq_true h)⟩

end Binson
