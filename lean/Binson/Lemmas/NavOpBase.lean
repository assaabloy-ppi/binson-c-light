/-
  Layer 4: tools shared by the per-call refinement lemmas: the cursor in normal form,
  rebuilding the invariant after a call that stays in the same state entry, and the prelude of
  every continuing call (a pending container is skipped first).
-/
import Binson.Lemmas.NavCur
namespace Binson

theorem rem_len {p : Parser} (hs : Shape p) {bs : Bytes} (h : p.rem = bs) : p.used + bs.length = p.size := by
  have := congrArg List.length h
  unfold Parser.rem at this
  simp only [List.length_drop, Array.length_toList] at this
  have h1 := hs.hbs; have h2 := hs.hus
  omega

theorem nflags_nil (pv : Option Bytes) (b : Option Fields) : nflags ⟨pv, b, []⟩ = .expField := rfl
theorem nflags_cons (pv : Option Bytes) (b : Option Fields) (x : Elems) (r : List Elems) : nflags ⟨pv, b, x :: r⟩ = .arr1 := rfl
theorem pflags_nil (pv : Option Bytes) (b : Option Fields) : pflags ⟨pv, b, []⟩ = .expValue := rfl
theorem pflags_cons (pv : Option Bytes) (b : Option Fields) (x : Elems) (r : List Elems) : pflags ⟨pv, b, x :: r⟩ = .arr2 := rfl

/-- a BEGIN token (entered or skipped) turns the flags in front of a pending container into those behind it -/
theorem nflags_of_pflags {l l' : Level} {L : RLevel} (hf : l.flags = pflags L)
    (h1 : l.flags = .expValue → l'.flags = .expField) (h2 : l.flags = .arr2 → l'.flags = .arr1) : l'.flags = nflags L := by
  obtain ⟨pv, b, arrs⟩ := L
  cases arrs with
  | nil => exact h1 hf
  | cons x r => exact h2 hf

/-- where a continuing call stands once a pending container has been skipped: at its own level, in front of the
    remaining children, the current entry as `L` describes it; a halting run from here is what the call does -/
structure Ready (p : Parser) (L : RLevel) (Ls : List RLevel) (scan : Scan) (sn : Option (List UInt8)) (st1 : LoopSt) : Prop where
  orig : AtOrig st1 (p.getLvl p.cur).ad p.depth
  mode : st1.scan = some scan
  kept : Kept ⟨p, some scan, 0, []⟩ st1
  rem : st1.p.rem = tailBytes (flat (L :: Ls))
  name : (st1.p.getLvl Ls.length).name = (p.getLvl Ls.length).name
  flags : (st1.p.getLvl Ls.length).flags = nflags L
  lvlIdx : st1.p.lvlIdx = Ls.length
  depth : st1.p.depth = Ls.length + 1
  maxDepth : st1.p.maxDepth = p.maxDepth
  ad : (st1.p.getLvl Ls.length).ad = L.arrs.length
  prevName : prevName st1.p = L.prev
  close : ∀ {st' : LoopSt} {b : Bool}, Halts sn (p.getLvl p.cur).ad p.depth st1 st' b →
    (advance p scan sn).p = st'.p ∧ (advance p scan sn).ret = b

/-- where the remaining children start, as the annotated tree counts offsets -/
theorem Ready.used {p : Parser} {L : RLevel} {Ls : List RLevel} {scan : Scan} {sn : Option (List UInt8)} {st1 : LoopSt}
    (q : Ready p L Ls scan sn st1) : p.size - (tailBytes (flat (L :: Ls))).length = st1.p.used := by
  have := rem_len q.orig.shape q.rem
  have hs1 : st1.p.size = p.size := q.kept.frame.1
  omega

namespace Run

variable {p : Parser} {c : Cursor} {L : RLevel} {Ls : List RLevel} {pend : Option Value}

theorem c_eq (h : Run p c L Ls pend) : c = mkCur c.arrayRoot p.size (flat (L :: Ls)) c.cur := by
  have h1 := h.frames; have h2 := h.root; have h3 := h.done
  cases c
  simp only at h1 h2 h3
  simp [mkCur, h1, h2, h3]

theorem of_frame {q : Parser} {ar : Bool} (hmd : p.maxDepth ≤ 255) (har : ar = true ↔ p.ptype = 2)
    (hs : Shape q) (he : q.err = .none) (fr : p.Frame q)
    {L' : RLevel} {Ls' : List RLevel} {cur' : Option Node} {pend' : Option Value} (hd : q.depth = Ls'.length + 1)
    (hz : ∀ i, q.depth ≤ i → q.getLvl i = Level.zero) (hbase : BaseOk ar L' Ls') (htop : LvlOk q Ls'.length L')
    (hsusp : SuspOk q Ls')
    (hpend : Pend q (mkCur ar p.size (flat (L' :: Ls')) cur') Ls'.length L' (tailBytes (flat (L' :: Ls'))) pend') :
    Run q (mkCur ar p.size (flat (L' :: Ls')) cur') L' Ls' pend' :=
  ⟨hs, he, by rw [fr.2.2.1]; exact hmd, hd, hz, by rw [fr.2.2.2.1]; exact har, hbase, htop, hsusp, by rw [fr.1]; rfl, rfl, rfl, hpend⟩

theorem next_state (h : Run p c L Ls pend) {q : Parser} (hs : Shape q) (he : q.err = .none) (fr : p.Frame q)
    (hd : q.depth = p.depth) (hlow : ∀ i, i < Ls.length → q.getLvl i = p.getLvl i)
    (hz : ∀ i, q.depth ≤ i → q.getLvl i = Level.zero)
    (L' : RLevel) (cur' : Option Node) (pend' : Option Value)
    (hbase : BaseOk c.arrayRoot L' Ls) (htop : LvlOk q Ls.length L')
    (hpend : Pend q (mkCur c.arrayRoot p.size (flat (L' :: Ls)) cur') Ls.length L' (tailBytes (flat (L' :: Ls))) pend') :
    Run q (mkCur c.arrayRoot p.size (flat (L' :: Ls)) cur') L' Ls pend' :=
  of_frame h.md h.aroot hs he fr (hd.trans h.depth) hz hbase htop (h.susp.transfer hlow fr.2.1 fr.2.2.1) hpend

/-- the current entry in front of a pending container: in value position, the array toggle past its first half -/
theorem pendFlags {v : Value} (h : Run p c L Ls (some v)) :
    ValCtx (p.getLvl p.lvlIdx) ∧ (p.getLvl p.lvlIdx).flags ≠ .arr1 := by
  rw [h.lvlIdx]
  have hf := h.pend.2.2.1
  have had := h.top.ad
  obtain ⟨pv, b, arrs⟩ := L
  cases arrs with
  | nil => exact ⟨Or.inl ⟨hf, had⟩, by rw [hf]; exact fun h => nomatch h⟩
  | cons x r => exact ⟨Or.inr ⟨Or.inr hf, by rw [had]; simp⟩, by rw [hf]; exact fun h => nomatch h⟩

theorem ready (h : Run p c L Ls pend) {scan : Scan} {sn : Option (List UInt8)} {st1 : LoopSt}
    (s1 : Steps sn (p.getLvl p.cur).ad p.depth ⟨p, some scan, 0, []⟩ st1) (o1 : AtOrig st1 (p.getLvl p.cur).ad p.depth)
    (c1 : st1.scan = some scan) (k1 : Kept ⟨p, some scan, 0, []⟩ st1) (r1 : st1.p.rem = tailBytes (flat (L :: Ls)))
    (n1 : (st1.p.getLvl Ls.length).name = (p.getLvl Ls.length).name) (f1 : (st1.p.getLvl Ls.length).flags = nflags L) :
    Ready p L Ls scan sn st1 := by
  have hli1 : st1.p.lvlIdx = Ls.length := k1.lvlIdx.trans h.lvlIdx
  have had : (st1.p.getLvl Ls.length).ad = (p.getLvl Ls.length).ad := by
    have := k1.ad; simp only at this; rw [h.lvlIdx] at this; exact this
  exact ⟨o1, c1, k1, r1, n1, f1, hli1, k1.depth.trans h.depth, k1.frame.2.2.1, had.trans h.top.ad,
    by unfold prevName; rw [hli1, n1, map_slice_congr k1.frame.2.1]; exact h.top.name,
    fun hh => advance_of_halts h.shape h.err scan sn (s1.halts hh)⟩

/-- every continuing call first skips a container `next` had stopped at -/
theorem prelude (h : Run p c L Ls pend) (scan : Scan) (hcont : Cont (some scan)) (sn : Option (List UInt8)) :
    ∃ st1, Ready p L Ls scan sn st1 := by
  have hO := h.atOrig scan
  have hli := h.lvlIdx
  cases pend with
  | none => exact ⟨_, h.ready (Steps.refl _ _ _ _) hO rfl (Kept.refl _) h.pend.1 rfl h.pend.2.1⟩
  | some v =>
    obtain ⟨h1, h2, h3, _, _, h6, h7⟩ := h.pend
    obtain ⟨st1, s1, r1, o1, c1, k1, n1, f1⟩ := skip_container v h1 (sn := sn) hO hcont _ h2 h6
      (by show fits (p.maxDepth - p.depth) (255 - (p.getLvl p.lvlIdx).ad) v = true; rw [hli, h.depth, h.top.ad]; exact h7)
      h.pendFlags.1 (fun hf => absurd hf h.pendFlags.2)
    simp only at n1 f1
    rw [hli] at n1 f1
    exact ⟨st1, h.ready s1 o1 c1 k1 r1 n1 (nflags_of_pflags h3 f1.1 f1.2.1)⟩

end Run

end Binson
