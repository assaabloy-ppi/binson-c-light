/-
  Layer 1: exact closed forms of the classification stage when the bytes at the
  cursor are a known encoded token.
-/
import Binson.Lemmas.Classify
import Binson.Lemmas.L0
import Binson.Lemmas.DecodeRef
namespace Binson

def Parser.rem (p : Parser) : Bytes := p.buf.toList.drop p.used

theorem drop_byte {p : Parser} {off : Nat} {b : UInt8} {r : Bytes} (h : p.buf.toList.drop off = b :: r) :
    p.byte off = b ∧ off < p.buf.size ∧ p.buf.toList.drop (off + 1) = r := by
  have hlt : off < p.buf.toList.length := by
    apply Decidable.byContradiction
    intro hn
    rw [List.drop_eq_nil_of_le (by omega)] at h
    exact absurd h (by simp)
  have hsz : off < p.buf.size := by simpa using hlt
  rw [List.drop_eq_getElem_cons hlt] at h
  injection h with h1 h2
  refine ⟨?_, hsz, h2⟩
  unfold Parser.byte
  rw [← h1]
  simp [Array.getD_eq_getD_getElem?, hsz]

theorem drop_append_len {p : Parser} {off : Nat} {bs r : Bytes} (ho : off ≤ p.buf.size)
    (h : p.buf.toList.drop off = bs ++ r) :
    off + bs.length ≤ p.buf.size ∧ p.buf.toList.drop (off + bs.length) = r := by
  have hl := congrArg List.length h
  simp only [List.length_drop, List.length_append, Array.length_toList] at hl
  constructor
  · omega
  · rw [← List.drop_drop, h]; simp

theorem leNat_of_drop {p : Parser} {off : Nat} {bs r : Bytes} (h : p.buf.toList.drop off = bs ++ r) :
    leNat p off bs.length = leNatL bs := by
  induction bs generalizing off with
  | nil => rfl
  | cons b bs ih =>
    obtain ⟨h1, _, h3⟩ := drop_byte (p := p) (off := off) (b := b) (r := bs ++ r) (by simpa using h)
    simp only [List.length_cons, leNat, leNatL, h1, ih h3]

theorem slice_of_drop {p : Parser} {off : Nat} {bs r : Bytes} (h : p.buf.toList.drop off = bs ++ r) :
    p.slice ⟨off, bs.length⟩ = bs := by
  unfold Parser.slice
  simp only [Array.toList_extract, List.extract_eq_take_drop, Nat.add_sub_cancel_left, h]
  simp

theorem slice_congr {p q : Parser} (h : q.buf = p.buf) (s : Span) : q.slice s = p.slice s := by
  unfold Parser.slice; rw [h]

theorem leNat_msb (p : Parser) (off w : Nat) :
    128 ≤ (p.byte (off + w)).toNat ↔ 2 ^ (8 * w + 7) ≤ leNat p off (w + 1) := by
  induction w generalizing off with
  | zero => exact Iff.rfl
  | succ w ih =>
    have hb := (p.byte off).toNat_lt
    have hp : 2 ^ (8 * (w + 1) + 7) = 2 ^ (8 * w + 7) * 256 := Nat.pow_add 2 (8 * w + 7) 8
    rw [show off + (w + 1) = off + 1 + w from Nat.add_right_comm off w 1, ih (off + 1), hp]
    show _ ↔ _ ≤ (p.byte off).toNat + 256 * leNat p (off + 1) (w + 1)
    omega

/-- `_parse_integer`'s value is the two's-complement reading of the `w` bytes: below 8 bytes the C code
    prefills with the sign of the last byte, at 8 bytes the conversion to `int64_t` does it -/
theorem parseIntVal_sext (p : Parser) (off w : Nat) (h1 : 1 ≤ w) (h8 : w ≤ 8) :
    parseIntVal p ⟨off, w⟩ = sext w (leNat p off w) := by
  obtain ⟨k, rfl⟩ := Nat.exists_eq_add_of_le' h1
  have hm := leNat_msb p off k
  unfold parseIntVal sext
  rw [(pow_casts (k + 1)).2.2]
  show (if k + 1 < 8 then (if (p.byte (off + k)).toNat ≥ 128 then _ else _) else _) =
    if leNat p off (k + 1) < 2 ^ (8 * k + 7) then _ else _
  by_cases h : k + 1 < 8
  · rw [if_pos h, (pow_casts (k + 1)).1]
    by_cases hs : 128 ≤ (p.byte (off + k)).toNat
    · rw [if_pos hs, if_neg (Nat.not_lt.mpr (hm.mp hs))]
    · rw [if_neg hs, if_pos (Nat.lt_of_not_le (mt hm.mpr hs))]
  · cases Nat.le_antisymm h8 (Nat.not_lt.mp h)
    rw [if_neg h]
    show (if leNat p off 8 ≥ 9223372036854775808 then (leNat p off 8 : Int) - ((18446744073709551616 : Nat) : Int) else _) =
      if leNat p off 8 < 9223372036854775808 then _ else _ - ((18446744073709551616 : Nat) : Int)
    by_cases hs : leNat p off 8 < 9223372036854775808
    · rw [if_pos hs, if_neg (Nat.not_le.mpr hs)]
    · rw [if_neg hs, if_pos (Nat.not_lt.mp hs)]

theorem parseIntVal_eq_sext {p : Parser} {off : Nat} {bs r : Bytes} (h : p.buf.toList.drop off = bs ++ r)
    (hw : bs.length = 1 ∨ bs.length = 2 ∨ bs.length = 4 ∨ bs.length = 8) :
    parseIntVal p ⟨off, bs.length⟩ = sext bs.length (leNatL bs) := by
  rw [parseIntVal_sext p off _ (by omega) (by omega), leNat_of_drop h]

/-- the shortest-form test accepts ONLY the minimal width, among the widths the value fits in
    (the C test for width `w` only looks at the next smaller width: that `v` fits `w` bytes is
    implied there by `v` having been read from `w` bytes) -/
theorem intBoundsOk_iff (i : Int) (w : Nat) (hw : w = 1 ∨ w = 2 ∨ w = 4 ∨ w = 8) (hf : FitsWidth i w) :
    intBoundsOk i w = true ↔ w = intWidth i := by
  unfold intBoundsOk intWidth
  rcases hw with rfl | rfl | rfl | rfl
  · have := (fits0 i).mp hf
    rcases intWidthExp_eq i with ⟨e, h1⟩ | ⟨e, h0, h1⟩ | ⟨e, h0, h1⟩ | ⟨e, h0⟩ <;> rw [e] <;> simp <;> omega
  · have := (fits1 i).mp hf
    rcases intWidthExp_eq i with ⟨e, h1⟩ | ⟨e, h0, h1⟩ | ⟨e, h0, h1⟩ | ⟨e, h0⟩ <;> rw [e] <;> simp <;> omega
  · have := (fits2 i).mp hf
    rcases intWidthExp_eq i with ⟨e, h1⟩ | ⟨e, h0, h1⟩ | ⟨e, h0, h1⟩ | ⟨e, h0⟩ <;> rw [e] <;> simp <;> omega
  · have := (fits3 i).mp hf
    rcases intWidthExp_eq i with ⟨e, h1⟩ | ⟨e, h0, h1⟩ | ⟨e, h0, h1⟩ | ⟨e, h0⟩ <;> rw [e] <;> simp <;> omega

theorem intBoundsOk_minimal (i : Int) (h : int64Min ≤ i ∧ i ≤ int64Max) : intBoundsOk i (intWidth i) = true :=
  (intBoundsOk_iff i _ (intWidth_cases i) (intWidth_minimal i h).1).mpr rfl

theorem intBoundsOk_sext_iff (w n : Nat) (hw : w = 1 ∨ w = 2 ∨ w = 4 ∨ w = 8) (hn : n < 256 ^ w) :
    intBoundsOk (sext w n) w = true ↔ w = intWidth (sext w n) :=
  intBoundsOk_iff _ w hw (sext_fits w (by omega) n hn).1

@[simp] theorem rem_setLvl (p : Parser) (i : Nat) (l : Level) : (p.setLvl i l).rem = p.rem := by
  unfold Parser.setLvl Parser.rem
  split <;> rfl

theorem rem_used (p : Parser) (u : Nat) : ({ p with used := u } : Parser).rem = p.buf.toList.drop u := rfl

theorem rem_cons {p : Parser} {b : UInt8} {r : Bytes} (h : Shape p) (hd : p.rem = b :: r) :
    p.byte p.used = b ∧ p.used < p.size ∧ ({ p with used := p.used + 1 } : Parser).rem = r := by
  obtain ⟨h1, h2, h3⟩ := drop_byte (p := p) (off := p.used) hd
  exact ⟨h1, by rw [← h.hbs]; exact h2, h3⟩

theorem classify_objBegin {p : Parser} (h : Shape p) (_he : p.err = .none) (bc0 : Nat) (rest : Bytes)
    (hd : p.rem = 0x40 :: rest) :
    classify p bc0 = ⟨.objBegin, ⟨p.used, 1⟩, bc0, p.setLvl p.lvlIdx { p.getLvl p.lvlIdx with ctype := .object }⟩ := by
  obtain ⟨hb, hu, _⟩ := rem_cons h hd
  rw [classify_peek h hu, hb]
  rfl

theorem classify_objEnd {p : Parser} (h : Shape p) (_he : p.err = .none) (bc0 : Nat) (rest : Bytes)
    (hd : p.rem = 0x41 :: rest) :
    classify p bc0 = ⟨.objEnd, ⟨p.used, 1⟩, bc0, p⟩ := by
  obtain ⟨hb, hu, _⟩ := rem_cons h hd
  rw [classify_peek h hu, hb]
  rfl

theorem classify_arrBegin {p : Parser} (h : Shape p) (_he : p.err = .none) (bc0 : Nat) (rest : Bytes)
    (hd : p.rem = 0x42 :: rest) :
    classify p bc0 = ⟨.arrBegin, ⟨p.used, 1⟩, bc0, p.setLvl p.lvlIdx { p.getLvl p.lvlIdx with ctype := .array }⟩ := by
  obtain ⟨hb, hu, _⟩ := rem_cons h hd
  rw [classify_peek h hu, hb]
  rfl

theorem classify_arrEnd {p : Parser} (h : Shape p) (_he : p.err = .none) (bc0 : Nat) (rest : Bytes)
    (hd : p.rem = 0x43 :: rest) :
    classify p bc0 = ⟨.arrEnd, ⟨p.used, 1⟩, bc0, p⟩ := by
  obtain ⟨hb, hu, _⟩ := rem_cons h hd
  rw [classify_peek h hu, hb]
  rfl

/-- BEGIN/END tokens leave the cursor where it is (the case code moves it) -/
theorem classify_objBegin_rem {p : Parser} (h : Shape p) (he : p.err = .none) (bc0 : Nat) (rest : Bytes)
    (hd : p.rem = 0x40 :: rest) : (classify p bc0).p.rem = 0x40 :: rest := by
  rw [classify_objBegin h he bc0 rest hd, rem_setLvl, hd]

theorem classify_objEnd_rem {p : Parser} (h : Shape p) (he : p.err = .none) (bc0 : Nat) (rest : Bytes)
    (hd : p.rem = 0x41 :: rest) : (classify p bc0).p.rem = 0x41 :: rest := by
  rw [classify_objEnd h he bc0 rest hd, hd]

theorem classify_arrBegin_rem {p : Parser} (h : Shape p) (he : p.err = .none) (bc0 : Nat) (rest : Bytes)
    (hd : p.rem = 0x42 :: rest) : (classify p bc0).p.rem = 0x42 :: rest := by
  rw [classify_arrBegin h he bc0 rest hd, rem_setLvl, hd]

theorem classify_arrEnd_rem {p : Parser} (h : Shape p) (he : p.err = .none) (bc0 : Nat) (rest : Bytes)
    (hd : p.rem = 0x43 :: rest) : (classify p bc0).p.rem = 0x43 :: rest := by
  rw [classify_arrEnd h he bc0 rest hd, hd]

/-- the case code's `used + 1` after a BEGIN/END token -/
theorem rem_setLvl_used1 {p : Parser} {b : UInt8} {rest : Bytes} (h : Shape p) (hd : p.rem = b :: rest) (i : Nat) (l : Level) :
    ({ p.setLvl i l with used := (p.setLvl i l).used + 1 } : Parser).rem = rest := by
  obtain ⟨_, _, hr⟩ := rem_cons h hd
  rw [← hr]
  unfold Parser.setLvl Parser.rem
  split <;> rfl

theorem classify_bool {p : Parser} (h : Shape p) (_he : p.err = .none) (bc0 : Nat) (rest : Bytes) (b : Bool)
    (hd : p.rem = (if b then 0x44 else 0x45) :: rest) :
    classify p bc0 = ⟨.boolean, ⟨p.used, 1⟩, 1, { p with used := p.used + 1 }⟩ ∧
    (∀ q : Parser, q.buf = p.buf → decide (q.byte p.used = 0x44) = b) ∧
    ({ p with used := p.used + 1 } : Parser).rem = rest := by
  obtain ⟨hb, hu, hr⟩ := rem_cons h hd
  refine ⟨?_, ?_, hr⟩
  · rw [classify_peek h hu, hb]
    cases b <;> simp [processOne]
  · intro q hq
    rw [byte_congr hq, hb]; cases b <;> decide

theorem processOne_dbl {p : Parser} (h : Shape p) (hfit : p.used + 1 + 8 ≤ p.size) :
    processOne p 0x46 = ⟨.double, ⟨p.used + 1, 8⟩, 9, { p with used := p.used + 1 + 8 }⟩ := by
  rw [processOne_eq, if_neg (by decide), if_pos rfl, fixedTok_eq _ (shape_used1 h (by omega)) (Nat.le_refl 8), if_pos hfit]

theorem classify_dbl {p : Parser} (h : Shape p) (_he : p.err = .none) (bc0 : Nat) (rest : Bytes) (bits : UInt64)
    (hd : p.rem = 0x46 :: (leBytes 8 bits.toNat ++ rest)) :
    classify p bc0 = ⟨.double, ⟨p.used + 1, 8⟩, 9, { p with used := p.used + 9 }⟩ ∧
    (∀ q : Parser, q.buf = p.buf → leNat q (p.used + 1) 8 = bits.toNat) ∧
    ({ p with used := p.used + 9 } : Parser).rem = rest := by
  obtain ⟨hb, hu, hr⟩ := rem_cons h hd
  rw [rem_used] at hr
  obtain ⟨hl, hr2⟩ := drop_append_len (by have := h.hbs; omega) hr
  rw [leBytes_length] at hl hr2
  refine ⟨?_, ?_, hr2⟩
  · rw [classify_peek h hu, hb, processOne_dbl h (by rw [← h.hbs]; exact hl)]
    simp
  · intro q hq
    have := leNat_of_drop hr
    rw [leBytes_length] at this
    rw [leNat_congr hq, this, leNatL_leBytes]
    exact Nat.mod_eq_of_lt (by have := bits.toNat_lt; omega)

theorem processOne_int {p : Parser} (h : Shape p) (b0 : UInt8) (hb : b0 = 0x10 ∨ b0 = 0x11 ∨ b0 = 0x12 ∨ b0 = 0x13)
    (hfit : p.used + 1 + 2 ^ (b0.toNat % 4) ≤ p.size) :
    processOne p b0 = ⟨.integer, ⟨p.used + 1, 2 ^ (b0.toNat % 4)⟩, 1 + 2 ^ (b0.toNat % 4),
                        { p with used := p.used + 1 + 2 ^ (b0.toNat % 4) }⟩ := by
  have hw1 : 1 ≤ 2 ^ (b0.toNat % 4) := Nat.one_le_two_pow
  have n1 : ¬ (b0 = 0x44 ∨ b0 = 0x45) := by rcases hb with rfl | rfl | rfl | rfl <;> decide
  have n2 : ¬ b0 = 0x46 := by rcases hb with rfl | rfl | rfl | rfl <;> decide
  rw [processOne_eq, if_neg n1, if_neg n2, if_pos hb, fixedTok_eq _ (shape_used1 h (by omega)) (pow_mod4_le b0), if_pos hfit]

theorem classify_int {p : Parser} (h : Shape p) (_he : p.err = .none) (bc0 : Nat) (rest : Bytes) (i : Int)
    (hi : int64Min ≤ i ∧ i ≤ int64Max) (hd : p.rem = encInt 0x10 i ++ rest) :
    classify p bc0 = ⟨.integer, ⟨p.used + 1, intWidth i⟩, 1 + intWidth i, { p with used := p.used + 1 + intWidth i }⟩ ∧
    (∀ q : Parser, q.buf = p.buf → parseIntVal q ⟨p.used + 1, intWidth i⟩ = i) ∧
    intBoundsOk i (intWidth i) = true ∧
    ({ p with used := p.used + 1 + intWidth i } : Parser).rem = rest := by
  unfold encInt at hd
  rw [List.cons_append] at hd
  obtain ⟨hb, hu, hr⟩ := rem_cons h hd
  rw [rem_used] at hr
  obtain ⟨hl, hr2⟩ := drop_append_len (by have := h.hbs; omega) hr
  rw [encIntBody_length] at hl hr2
  refine ⟨?_, ?_, intBoundsOk_minimal i hi, hr2⟩
  · have hfit : p.used + 1 + intWidth i ≤ p.size := by rw [← h.hbs]; exact hl
    rw [classify_peek h hu, hb]
    unfold intWidth at hfit ⊢
    rcases intWidthExp_eq i with ⟨e, _⟩ | ⟨e, _⟩ | ⟨e, _⟩ | ⟨e, _⟩ <;> rw [e] at hfit ⊢ <;>
      rw [if_neg (by decide), if_neg (by decide), if_neg (by decide), if_neg (by decide)] <;>
      exact processOne_int h _ (by decide) hfit
  · intro q hq
    have := parseIntVal_eq_sext hr (by rw [encIntBody_length]; exact intWidth_cases i)
    rw [encIntBody_length] at this
    rw [parseIntVal_congr hq, this, sext_encIntBody i hi]

/-- the tag bytes of strings and bytes lie between 0x14 and 0x1a: they are none of the other tags -/
theorem blobTag_other {b : UInt8} (hb : b = 0x14 ∨ b = 0x15 ∨ b = 0x16 ∨ b = 0x18 ∨ b = 0x19 ∨ b = 0x1a) :
    (¬ b = 0x40 ∧ ¬ b = 0x41 ∧ ¬ b = 0x42 ∧ ¬ b = 0x43) ∧ ¬ (b = 0x44 ∨ b = 0x45) ∧ ¬ b = 0x46 ∧
    ¬ (b = 0x10 ∨ b = 0x11 ∨ b = 0x12 ∨ b = 0x13) := by
  have hr : 0x14 ≤ b.toNat ∧ b.toNat ≤ 0x1a := by rcases hb with rfl | rfl | rfl | rfl | rfl | rfl <;> decide
  have hi : ∀ c : UInt8, 0x1a < c.toNat → ¬ b = c := fun c hc e => absurd (e ▸ hr.2) (Nat.not_le.mpr hc)
  refine ⟨⟨hi _ (by decide), hi _ (by decide), hi _ (by decide), hi _ (by decide)⟩, ?_, hi _ (by decide), ?_⟩
  · rintro (rfl | rfl) <;> exact absurd hr.2 (by decide)
  · rintro (rfl | rfl | rfl | rfl) <;> exact absurd hr.1 (by decide)

theorem processOne_blob {p : Parser} (h : Shape p) (b0 : UInt8)
    (hb : b0 = 0x14 ∨ b0 = 0x15 ∨ b0 = 0x16 ∨ b0 = 0x18 ∨ b0 = 0x19 ∨ b0 = 0x1a) (n : Nat)
    (hfit : p.used + 1 + 2 ^ (b0.toNat % 4) ≤ p.size)
    (hlv : parseIntVal p ⟨p.used + 1, 2 ^ (b0.toNat % 4)⟩ = (n : Int))
    (hbo : intBoundsOk (n : Int) (2 ^ (b0.toNat % 4)) = true)
    (hn : n ≤ 2147483647)
    (hfit2 : p.used + 1 + 2 ^ (b0.toNat % 4) + n ≤ p.size) :
    processOne p b0 = ⟨if b0.toNat < 0x18 then .string else .bytes, ⟨p.used + 1 + 2 ^ (b0.toNat % 4), n⟩,
                        1 + 2 ^ (b0.toNat % 4) + n, { p with used := p.used + 1 + 2 ^ (b0.toNat % 4) + n }⟩ := by
  have hw1 : 1 ≤ 2 ^ (b0.toNat % 4) := Nat.one_le_two_pow
  obtain ⟨_, n1, n2, n3⟩ := blobTag_other hb
  have hlv' : parseIntVal { p with used := p.used + 1 } ⟨p.used + 1, 2 ^ (b0.toNat % 4)⟩ = (n : Int) :=
    (parseIntVal_congr (p := p) (q := { p with used := p.used + 1 }) rfl _).trans hlv
  rw [processOne_eq, if_neg n1, if_neg n2, if_neg n3, if_pos hb,
    blobTok_eq _ (shape_used1 h (by omega)) (pow_mod4_le b0) hlv', if_pos hfit,
    if_pos ⟨hbo, Int.natCast_nonneg n, by omega⟩, Int.toNat_natCast, if_pos hfit2]

theorem classify_blob_tag {p : Parser} (h : Shape p) (bc0 : Nat) (rest : Bytes) (tag : UInt8)
    (hb : tag = 0x14 ∨ tag = 0x15 ∨ tag = 0x16 ∨ tag = 0x18 ∨ tag = 0x19 ∨ tag = 0x1a)
    (s : Bytes) (hs : s.length ≤ INT32_MAX) (hk : tag.toNat % 4 = intWidthExp (s.length : Int))
    (hd : p.rem = tag :: (encIntBody (s.length : Int) ++ (s ++ rest))) :
    classify p bc0 = ⟨if tag.toNat < 0x18 then .string else .bytes, ⟨p.used + 1 + intWidth s.length, s.length⟩,
                      1 + intWidth s.length + s.length, { p with used := p.used + 1 + intWidth s.length + s.length }⟩ ∧
    (∀ q : Parser, q.buf = p.buf → q.slice ⟨p.used + 1 + intWidth s.length, s.length⟩ = s) ∧
    ({ p with used := p.used + 1 + intWidth s.length + s.length } : Parser).rem = rest := by
  obtain ⟨_, hi⟩ := len_exp _ hs
  obtain ⟨hbt, hu, hr⟩ := rem_cons h hd
  rw [rem_used] at hr
  have hbs := h.hbs
  obtain ⟨hl, hr2⟩ := drop_append_len (by omega) hr
  obtain ⟨hl2, hr3⟩ := drop_append_len hl hr2
  rw [encIntBody_length] at hl hr2 hl2 hr3
  have hW : 2 ^ (tag.toNat % 4) = intWidth (s.length : Int) := by rw [hk]; rfl
  have hlv : parseIntVal p ⟨p.used + 1, intWidth (s.length : Int)⟩ = (s.length : Int) := by
    have := parseIntVal_eq_sext hr (by rw [encIntBody_length]; exact intWidth_cases _)
    rw [encIntBody_length] at this
    rw [this, sext_encIntBody _ hi]
  refine ⟨?_, fun q hq => by rw [slice_congr hq]; exact slice_of_drop hr2, hr3⟩
  obtain ⟨⟨n0, n1, n2, n3⟩, _⟩ := blobTag_other hb
  rw [classify_peek h hu, hbt, if_neg n0, if_neg n1, if_neg n2, if_neg n3]
  rw [← hW] at hl hl2 hlv ⊢
  exact processOne_blob h tag hb s.length (by omega) hlv (by rw [hW]; exact intBoundsOk_minimal _ hi)
    (by unfold INT32_MAX at hs; exact hs) (by omega)

/-- string (`base` 0x14) / bytes (0x18) from the encoding: the length prefix has one of three widths -/
theorem classify_blob {p : Parser} (h : Shape p) (bc0 : Nat) (rest : Bytes) (base : UInt8) (hbase : base = 0x14 ∨ base = 0x18)
    (s : Bytes) (hs : s.length ≤ INT32_MAX) (hd : p.rem = encStr base s ++ rest) :
    classify p bc0 = ⟨if base = 0x14 then .string else .bytes, ⟨p.used + 1 + intWidth s.length, s.length⟩,
                      1 + intWidth s.length + s.length, { p with used := p.used + 1 + intWidth s.length + s.length }⟩ ∧
    (∀ q : Parser, q.buf = p.buf → q.slice ⟨p.used + 1 + intWidth s.length, s.length⟩ = s) ∧
    ({ p with used := p.used + 1 + intWidth s.length + s.length } : Parser).rem = rest := by
  unfold encStr encInt at hd
  simp only [List.cons_append, List.append_assoc] at hd
  have hk := (len_exp _ hs).1
  have hk' : intWidthExp (s.length : Int) = 0 ∨ intWidthExp (s.length : Int) = 1 ∨ intWidthExp (s.length : Int) = 2 := by omega
  rcases hbase with rfl | rfl <;> rcases hk' with e | e | e <;> rw [e] at hd <;>
    exact classify_blob_tag h bc0 rest _ (by decide) s hs (by rw [e]; decide) hd

theorem classify_str {p : Parser} (h : Shape p) (_he : p.err = .none) (bc0 : Nat) (rest : Bytes) (s : Bytes)
    (hs : s.length ≤ INT32_MAX) (hd : p.rem = encStr 0x14 s ++ rest) :
    classify p bc0 = ⟨.string, ⟨p.used + 1 + intWidth s.length, s.length⟩, 1 + intWidth s.length + s.length,
                      { p with used := p.used + 1 + intWidth s.length + s.length }⟩ ∧
    (∀ q : Parser, q.buf = p.buf → q.slice ⟨p.used + 1 + intWidth s.length, s.length⟩ = s) ∧
    ({ p with used := p.used + 1 + intWidth s.length + s.length } : Parser).rem = rest :=
  classify_blob h bc0 rest 0x14 (Or.inl rfl) s hs hd

theorem classify_bytes {p : Parser} (h : Shape p) (_he : p.err = .none) (bc0 : Nat) (rest : Bytes) (s : Bytes)
    (hs : s.length ≤ INT32_MAX) (hd : p.rem = encStr 0x18 s ++ rest) :
    classify p bc0 = ⟨.bytes, ⟨p.used + 1 + intWidth s.length, s.length⟩, 1 + intWidth s.length + s.length,
                      { p with used := p.used + 1 + intWidth s.length + s.length }⟩ ∧
    (∀ q : Parser, q.buf = p.buf → q.slice ⟨p.used + 1 + intWidth s.length, s.length⟩ = s) ∧
    ({ p with used := p.used + 1 + intWidth s.length + s.length } : Parser).rem = rest :=
  classify_blob h bc0 rest 0x18 (Or.inr rfl) s hs hd

end Binson
