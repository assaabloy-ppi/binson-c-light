/-
  Lemmas about the print model (Model/Print.lean) on structural view lists (Lemmas/Views.lean):
  the separator state machine `pstate` of `_binson_print_cb` renders a value tree exactly as
  Spec/Render.lean does.
-/
import Binson.Lemmas.Views
namespace Binson

/-! ### `%.*s` and the hex dump are the spec's `upToNul` / `hexText` -/

theorem cstr_eq_upToNul (s : List UInt8) : cstr s = upToNul s := by
  induction s with
  | nil => rfl
  | cons b r ih =>
    unfold cstr at ih ⊢
    by_cases h : b = 0
    · simp [List.takeWhile, upToNul, h]
    · simp only [ne_eq, decide_not] at ih
      simp [List.takeWhile, upToNul, h, ih]

theorem hexAll_eq_hexText (s : List UInt8) : hexAll s = hexText s := by
  induction s with
  | nil => rfl
  | cons b r ih => simp [hexAll, hexText, ih]

def psFoldV (F : Fmts) : Nat → List EvView → Nat
  | ps, [] => ps
  | ps, e :: r => psFoldV F (printCbV F ps e).1 r

theorem printFoldV_append (F : Fmts) (ps : Nat) (a b : List EvView) :
    printFoldV F ps (a ++ b) = printFoldV F ps a ++ printFoldV F (psFoldV F ps a) b := by
  induction a generalizing ps with
  | nil => rfl
  | cons e r ih => simp [printFoldV, psFoldV, ih]

theorem psFoldV_append (F : Fmts) (ps : Nat) (a b : List EvView) :
    psFoldV F ps (a ++ b) = psFoldV F (psFoldV F ps a) b := by
  induction a generalizing ps with
  | nil => rfl
  | cons e r ih => simp [psFoldV, ih]

theorem printFoldV_cons (F : Fmts) (ps : Nat) (e : EvView) (r : List EvView) :
    printFoldV F ps (e :: r) = (printCbV F ps e).2 ++ printFoldV F (printCbV F ps e).1 r := rfl

theorem psFoldV_cons (F : Fmts) (ps : Nat) (e : EvView) (r : List EvView) :
    psFoldV F ps (e :: r) = psFoldV F (printCbV F ps e).1 r := rfl

theorem printFoldV_nil (F : Fmts) (ps : Nat) : printFoldV F ps [] = [] := rfl
theorem psFoldV_nil (F : Fmts) (ps : Nat) : psFoldV F ps [] = ps := rfl

/-- `pstate` after a value at array depth `ad`: a container closes to 2 directly inside an object (or as
    the root) and to 5 inside an array; anything else only turns "just after '['" (4) into 5 -/
def endPs (ad : Nat) : Value → Nat → Nat
  | .arr _, _ => if ad = 0 then 2 else 5
  | .obj _, _ => if ad = 0 then 2 else 5
  | _, ps => if ps = 4 then 5 else ps

def endPsE : Elems → Nat → Nat
  | .nil, ps => ps
  | .cons _ _, _ => 5

def endPsF : Fields → Nat → Nat
  | .nil, ps => ps
  | .cons _ _ _, _ => 2

def commaIf5 (ps : Nat) : List UInt8 := if ps = 5 then [0x2c] else []

theorem endPs_in_array (ad : Nat) (v : Value) (ps : Nat) (hp : ps = 4 ∨ ps = 5) : endPs (ad + 1) v ps = 5 := by
  rcases hp with rfl | rfl <;> cases v <;> rfl

theorem cb_scalar (F : Fmts) (ps : Nat) (e : EvView)
    (ht : e.tok = .boolean ∨ e.tok = .integer ∨ e.tok = .double ∨ e.tok = .string) :
    printCbV F ps e = (if ps = 4 then 5 else ps, commaIf5 ps ++ scalarText F e) := by
  rcases ht with h | h | h | h <;> simp [printCbV, h, commaIf5]

theorem scalarText_bool (F : Fmts) (b : Bool) :
    scalarText F ⟨.boolean, 0, [], [], .bool b⟩ = strBytes (if b then "true" else "false") := by
  cases b <;> rfl

theorem scalarText_str (F : Fmts) (s : List UInt8) :
    scalarText F ⟨.string, 0, [], s, .none⟩ = quoted s := by
  simp [scalarText, quoted, cstr_eq_upToNul, quote]

theorem single_scalar (F : Fmts) (ps : Nat) (e : EvView)
    (ht : e.tok = .boolean ∨ e.tok = .integer ∨ e.tok = .double ∨ e.tok = .string) :
    printFoldV F ps [e] = commaIf5 ps ++ scalarText F e ∧ psFoldV F ps [e] = if ps = 4 then 5 else ps := by
  simp [printFoldV, psFoldV, cb_scalar F ps e ht]

mutual
theorem views_value (F : Fmts) : ∀ (v : Value) (ad ps : Nat),
    printFoldV F ps (viewsOf ad v) = commaIf5 ps ++ render F v ∧ psFoldV F ps (viewsOf ad v) = endPs ad v ps
  | .bool b, ad, ps => by
    have h := single_scalar F ps ⟨.boolean, 0, [], [], .bool b⟩ (Or.inl rfl)
    rw [scalarText_bool] at h
    exact h
  | .int i, ad, ps => single_scalar F ps ⟨.integer, 0, [], [], .int i⟩ (Or.inr (Or.inl rfl))
  | .dbl d, ad, ps => single_scalar F ps ⟨.double, 0, [], [], .dbl d.toNat⟩ (Or.inr (Or.inr (Or.inl rfl)))
  | .str s, ad, ps => by
    have h := single_scalar F ps ⟨.string, 0, [], s, .none⟩ (Or.inr (Or.inr (Or.inr rfl)))
    rw [scalarText_str] at h
    exact h
  | .bytes s, ad, ps => by
    simp [viewsOf, printFoldV, psFoldV, printCbV, render, endPs, commaIf5, hexAll_eq_hexText, quote]
  | .arr xs, ad, ps => by
    have hE := views_elems F xs ad 4 (Or.inl rfl)
    have hb : printCbV F ps ⟨.arrBegin, 0, [], [], .none⟩ = (4, commaIf5 ps ++ [0x5b]) := by
      simp [printCbV, commaIf5]
    have he : printCbV F (endPsE xs 4) ⟨.arrEnd, ad, [], [], .none⟩ = (if ad = 0 then 2 else 5, [0x5d]) := by
      cases xs <;> simp [printCbV, endPsE]
    simp only [viewsOf, printFoldV_cons, psFoldV_cons, printFoldV_append, psFoldV_append, hb,
      hE.1, hE.2, he, printFoldV_nil, psFoldV_nil, render, endPs]
    simp
  | .obj fs, ad, ps => by
    have hF := views_fields F fs 1 (Or.inl rfl)
    have hb : printCbV F ps ⟨.objBegin, 0, [], [], .none⟩ = (1, commaIf5 ps ++ [0x7b]) := by
      simp [printCbV, commaIf5]
    have he : printCbV F (endPsF fs 1) ⟨.objEnd, ad, [], [], .none⟩ = (if ad = 0 then 2 else 5, [0x7d]) := by
      cases fs <;> cases ad <;> simp [printCbV, endPsF]
    simp only [viewsOf, printFoldV_cons, psFoldV_cons, printFoldV_append, psFoldV_append, hb,
      hF.1, hF.2, he, printFoldV_nil, psFoldV_nil, render, endPs]
    simp
/-- the elements of an array (`ad + 1 ≥ 1` is the array depth they sit at) -/
theorem views_elems (F : Fmts) : ∀ (xs : Elems) (ad ps : Nat), ps = 4 ∨ ps = 5 →
    printFoldV F ps (viewsOfE (ad + 1) xs) = renderE F (decide (ps = 4)) xs ∧
    psFoldV F ps (viewsOfE (ad + 1) xs) = endPsE xs ps
  | .nil, ad, ps, _ => by simp [viewsOfE, printFoldV, psFoldV, renderE, endPsE]
  | .cons v r, ad, ps, hp => by
    have hV := views_value F v (ad + 1) ps
    rw [endPs_in_array ad v ps hp] at hV
    have hR := views_elems F r ad 5 (Or.inr rfl)
    have h5 : endPsE r 5 = 5 := by cases r <;> rfl
    rw [h5] at hR
    simp only [viewsOfE, printFoldV_append, psFoldV_append, hV.1, hV.2, hR.1, hR.2, renderE, endPsE]
    rcases hp with hp | hp <;> subst hp <;> simp [commaIf5]
theorem views_fields (F : Fmts) : ∀ (fs : Fields) (ps : Nat), ps = 1 ∨ ps = 2 →
    printFoldV F ps (viewsOfF fs) = renderF F (decide (ps = 1)) fs ∧
    psFoldV F ps (viewsOfF fs) = endPsF fs ps
  | .nil, ps, _ => by simp [viewsOfF, printFoldV, psFoldV, renderF, endPsF]
  | .cons n v r, ps, hp => by
    have hV := views_value F v 0 2
    have h2 : endPs 0 v 2 = 2 := by cases v <;> rfl
    rw [h2, show commaIf5 2 = [] from rfl, List.nil_append] at hV
    have hR := views_fields F r 2 (Or.inr rfl)
    have h2' : endPsF r 2 = 2 := by cases r <;> rfl
    rw [h2'] at hR
    have hn : printCbV F ps ⟨.fieldName, 0, n, [], .none⟩ =
        (2, (if ps = 2 then [0x2c] else []) ++ (quoted n ++ [0x3a])) := by
      rcases hp with hp | hp <;> subst hp <;> simp [printCbV, quoted, cstr_eq_upToNul, quote]
    simp only [viewsOfF, printFoldV_cons, psFoldV_cons, printFoldV_append, psFoldV_append, hn,
      hV.1, hV.2, hR.1, hR.2, renderF, endPsF]
    rcases hp with hp | hp <;> subst hp <;> simp
end

end Binson
