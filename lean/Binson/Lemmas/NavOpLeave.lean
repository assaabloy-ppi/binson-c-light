/-
  Layer 4: `_advance_parsing(LEAVE_OBJECT / LEAVE_ARRAY)` from anywhere inside the
  container against the invariant.
-/
import Binson.Lemmas.NavOpEnter
namespace Binson

namespace Run

variable {p : Parser} {c : Cursor} {Ls : List RLevel} {pend : Option Value}

theorem leave_fields {pv : Option Bytes} {fs : Fields} (h : Run p c ⟨pv, some fs, []⟩ Ls pend) :
    ∃ st1 st2, Ready p ⟨pv, some fs, []⟩ Ls .leaveObj none st1 ∧ Steps none (p.getLvl p.cur).ad p.depth st1 st2 ∧
      st2.p.rem = 0x41 :: tailBytes (flat Ls) ∧ AtOrig st2 (p.getLvl p.cur).ad p.depth ∧ st2.scan = some .leaveObj ∧
      Kept st1 st2 ∧ (st2.p.getLvl st2.p.lvlIdx).flags = .expField := by
  obtain ⟨st1, q⟩ := h.prelude .leaveObj cont_leaveObj none
  obtain ⟨w1, w2⟩ := h.top.base _ rfl
  obtain ⟨st2, s2, r2, o2, c2, k2, f2⟩ := orig_fields fs st1 _ _ _ q.orig q.mode (by rw [q.rem, tail_obj]) (by rw [q.prevName]; exact w1)
    (by rw [q.lvlIdx, q.flags]; rfl) (by rw [q.lvlIdx]; exact q.ad) (by rw [q.maxDepth, q.depth]; exact w2)
  exact ⟨st1, st2, q, s2, r2, o2, c2, k2, by rw [k2.lvlIdx]; exact f2⟩

theorem adv_leave_obj {pv : Option Bytes} {fs : Fields} {L2 : RLevel} {Ls' : List RLevel}
    (h : Run p c ⟨pv, some fs, []⟩ (L2 :: Ls') pend) :
    (advance p .leaveObj none).ret = true ∧
    Run (advance p .leaveObj none).p (mkCur c.arrayRoot p.size (flat (L2 :: Ls')) none) L2 Ls' none := by
  obtain ⟨st1, st2, q, s2, r2, o2, c2, k2, f2⟩ := h.leave_fields
  have hd2 : st2.p.depth = Ls'.length + 1 + 1 := k2.depth.trans q.depth
  obtain ⟨st3, i3, hr3, r3⟩ := iter_objEnd_pop (sn := none) (oa := (p.getLvl p.cur).ad) (od := p.depth) o2.shape o2.err _ r2 f2
    (by rw [hd2]; omega) (by rw [c2]; rfl) (fun _ => by rw [c2]; exact fun h => nomatch h)
  rw [if_pos o2.od, c2] at i3 r3
  rw [hd2] at r3
  obtain ⟨e1, e2⟩ := q.close (s2.halts (Halts.stop i3 r3.err))
  rw [e1, e2]
  have k := q.kept.trans k2
  have fr := k.frame.trans r3.frame
  have hlow : ∀ i, i < Ls'.length + 1 → st3.p.getLvl i = p.getLvl i := fun i hi => by
    rw [r3.lvl, if_neg (by omega)]; exact k.lower i (by show i < p.lvlIdx; rw [h.lvlIdx]; exact hi)
  obtain ⟨t1, t2, t3⟩ := h.susp
  refine ⟨rfl, of_frame h.md h.aroot r3.shape r3.err fr r3.depth ?_ h.base.2
    (t1.transfer (by rw [hlow _ (by omega)]) (by rw [hlow _ (by omega)]) fr.2.1 fr.2.2.1)
    (t3.transfer (fun i hi => hlow i (by omega)) fr.2.1 fr.2.2.1) ⟨hr3, by rw [hlow _ (by omega)]; exact t2, Or.inl rfl⟩⟩
  intro i hi
  rw [r3.depth] at hi
  rw [r3.lvl]
  split
  · rfl
  · exact o2.zeros i (by rw [hd2]; omega)

/-- leaving the root object: the call returns false, without error as the buffer ends there -/
theorem adv_leave_obj_root {pv : Option Bytes} {fs : Fields} (h : Run p c ⟨pv, some fs, []⟩ [] pend) :
    (advance p .leaveObj none).ret = false ∧ (advance p .leaveObj none).p.err = .none ∧
    (advance p .leaveObj none).p.depth = 0 ∧ (advance p .leaveObj none).p.fault = false ∧
    (advance p .leaveObj none).p.oof = false ∧ (advance p .leaveObj none).p.used = (advance p .leaveObj none).p.size := by
  obtain ⟨st1, st2, q, s2, r2, o2, c2, k2, f2⟩ := h.leave_fields
  obtain ⟨st3, i3, _, r3, u3⟩ := iter_objEnd_root (sn := none) (oa := (p.getLvl p.cur).ad) (od := p.depth) o2.shape o2.err [] r2 f2
    (k2.depth.trans q.depth) (by rw [c2]; rfl) (fun _ => by rw [c2]; exact fun h => nomatch h)
  obtain ⟨e1, e2⟩ := q.close (s2.halts (Halts.ret i3))
  rw [e1, e2]
  exact ⟨rfl, r3.err, r3.depth, r3.shape.hnf, r3.shape.hno, u3 rfl⟩

/-- the root array of an array document is the only array in the bottom pseudo entry -/
def IsRootArr (b : Option Fields) (ar : List Elems) (Ls : List RLevel) : Prop := b = none ∧ ar = [] ∧ Ls = []

theorem rootArr_iff {pv : Option Bytes} {b : Option Fields} {xs : Elems} {ar : List Elems}
    (h : Run p c ⟨pv, b, xs :: ar⟩ Ls pend) :
    ((p.getLvl Ls.length).ad = 1 ∧ p.ptype = 2 ∧ p.depth = 1) ↔ IsRootArr b ar Ls := by
  have had := h.top.ad
  simp only [List.length_cons] at had
  constructor
  · intro ⟨h1, h2, h3⟩
    have hl := h.nil_of_depth h3
    subst hl
    have hb := h.base
    refine ⟨hb.1.mpr (h.aroot.mpr h2), ?_, rfl⟩
    rw [had] at h1
    cases ar with
    | nil => rfl
    | cons _ _ => simp at h1
  · intro ⟨h1, h2, h3⟩
    subst h1; subst h2; subst h3
    have hb := h.base
    exact ⟨by rw [had]; rfl, h.aroot.mp (hb.1.mp rfl), by rw [h.depth]; rfl⟩

theorem leave_elems {pv : Option Bytes} {b : Option Fields} {xs : Elems} {ar : List Elems}
    (h : Run p c ⟨pv, b, xs :: ar⟩ Ls pend) :
    ∃ st1 st2, Ready p ⟨pv, b, xs :: ar⟩ Ls .leaveArr none st1 ∧ Steps none (p.getLvl p.cur).ad p.depth st1 st2 ∧
      st2.p.rem = 0x43 :: tailBytes (flat (⟨pv, b, ar⟩ :: Ls)) ∧ AtOrig st2 (p.getLvl p.cur).ad p.depth ∧
      st2.scan = some .leaveArr ∧ Kept st1 st2 ∧ (st2.p.getLvl st2.p.lvlIdx).name = (st1.p.getLvl Ls.length).name ∧
      ((st2.p.getLvl st2.p.lvlIdx).flags = .arr1 ∨ (st2.p.getLvl st2.p.lvlIdx).flags = .arr2) ∧
      (st2.p.getLvl st2.p.lvlIdx).ad = ar.length + 1 := by
  obtain ⟨st1, q⟩ := h.prelude .leaveArr cont_leaveArr none
  obtain ⟨w1, w2, _⟩ := h.top.arrs
  have had1 : (st1.p.getLvl st1.p.lvlIdx).ad = ar.length + 1 := by rw [q.lvlIdx]; exact q.ad
  obtain ⟨st2, s2, r2, o2, c2, k2, n2, f2⟩ := orig_elems xs st1 _ _ _ q.orig q.mode (by rw [q.rem, tail_arr]) w1
    ⟨by rw [q.lvlIdx, q.flags]; exact Or.inl rfl, by rw [had1]; omega⟩ (by rw [q.maxDepth, q.depth, had1]; exact w2)
  exact ⟨st1, st2, q, s2, r2, o2, c2, k2, by rw [k2.lvlIdx, n2, q.lvlIdx], by rw [k2.lvlIdx]; exact f2, by rw [k2.lvlIdx, k2.ad]; exact had1⟩

theorem adv_leave_arr {pv : Option Bytes} {b : Option Fields} {xs : Elems} {ar : List Elems}
    (h : Run p c ⟨pv, b, xs :: ar⟩ Ls pend) (hnr : ¬ IsRootArr b ar Ls) :
    (advance p .leaveArr none).ret = true ∧
    Run (advance p .leaveArr none).p (mkCur c.arrayRoot p.size (flat (⟨pv, b, ar⟩ :: Ls)) none) ⟨pv, b, ar⟩ Ls none := by
  obtain ⟨st1, st2, q, s2, r2, o2, c2, k2, n2, f2, a2⟩ := h.leave_elems
  have k := q.kept.trans k2
  have hi2 : st2.p.lvlIdx = Ls.length := k2.lvlIdx.trans q.lvlIdx
  obtain ⟨st3, i3, hr3, r3⟩ := iter_arrEnd_step (sn := none) (oa := (p.getLvl p.cur).ad) (od := p.depth) o2.shape o2.err _ r2 f2
    (by rw [a2]; omega)
    (fun ⟨a1, a2', a3⟩ => hnr (h.rootArr_iff.mp ⟨by rw [h.top.ad]; exact a2.symm.trans a1, by rw [← k.frame.2.2.2.1]; exact a2',
      by rw [← k.depth]; exact a3⟩))
    (by rw [if_pos ⟨o2.oa, o2.od⟩, c2]; rfl)
  rw [if_pos ⟨o2.oa, o2.od⟩, c2] at i3 r3
  rw [hi2] at r3 n2 a2
  obtain ⟨e1, e2⟩ := q.close (s2.halts (Halts.stop i3 r3.err))
  rw [e1, e2]
  have fr := k.frame.trans r3.frame
  have hL : st3.p.getLvl Ls.length = arrEndLevel (st2.p.getLvl Ls.length) := by rw [r3.lvl, if_pos rfl]
  have hbase : BaseOk c.arrayRoot ⟨pv, b, ar⟩ Ls := by
    refine BaseOk_congr h.base (by simp) ?_
    intro hb har
    simp only at hb har
    apply hnr
    refine ⟨hb, har, ?_⟩
    cases Ls with
    | nil => rfl
    | cons _ _ => exact absurd hb h.base.1
  refine ⟨rfl, h.next_state r3.shape r3.err fr (r3.depth.trans k.depth)
    (fun i hi => by rw [r3.lvl, if_neg (Nat.ne_of_lt hi)]; exact k.lower i (by show i < p.lvlIdx; rw [h.lvlIdx]; exact hi))
    (fun i hi => by rw [r3.depth, k.depth, h.depth] at hi; rw [r3.lvl, if_neg (by omega)]; exact o2.zeros i (by rw [k.depth, h.depth]; exact hi))
    ⟨pv, b, ar⟩ none none hbase
    (h.top.withArrs (by rw [hL]; show _ - 1 = ar.length; rw [a2]; rfl) (by rw [hL]; exact n2.trans q.name) fr.2.1 fr.2.2.1 h.top.arrs.2.2)
    ⟨hr3, ?_, Or.inl rfl⟩⟩
  rw [hL]; show (if (st2.p.getLvl Ls.length).ad - 1 = 0 then Flags.expField else Flags.arr1) = _
  rw [a2]
  cases ar with
  | nil => rfl
  | cons _ _ => simp [nflags]

/-- leaving the root array: the call returns false, without error as the buffer ends there; the array count is 0 -/
theorem adv_leave_arr_root {pv : Option Bytes} {xs : Elems} (h : Run p c ⟨pv, none, [xs]⟩ [] pend) :
    (advance p .leaveArr none).ret = false ∧ (advance p .leaveArr none).p.err = .none ∧
    (advance p .leaveArr none).p.depth = 1 ∧ (advance p .leaveArr none).p.fault = false ∧
    (advance p .leaveArr none).p.oof = false ∧ (advance p .leaveArr none).p.used = (advance p .leaveArr none).p.size ∧
    ((advance p .leaveArr none).p.getLvl 0).ad = 0 := by
  obtain ⟨st1, st2, q, s2, r2, o2, c2, k2, _, f2, a2⟩ := h.leave_elems
  have k := q.kept.trans k2
  have hd2 : st2.p.depth = 1 := k.depth.trans h.depth
  obtain ⟨st3, i3, _, r3, u3⟩ := iter_arrEnd_root (sn := none) (oa := (p.getLvl p.cur).ad) (od := p.depth) o2.shape o2.err [] r2 f2 a2
    (by rw [k.frame.2.2.2.1]; exact (h.rootArr_iff.mpr ⟨rfl, rfl, rfl⟩).2.1) hd2 (by rw [c2]; split <;> rfl)
  obtain ⟨e1, e2⟩ := q.close (s2.halts (Halts.ret i3))
  rw [e1, e2]
  exact ⟨rfl, r3.err, r3.depth.trans hd2, r3.shape.hnf, r3.shape.hno, u3 rfl, by rw [r3.lvl, k2.lvlIdx.trans q.lvlIdx]; rfl⟩

end Run

end Binson
