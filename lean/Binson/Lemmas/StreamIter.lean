/-
  C08 (streaming traversal is as strict as verify): one pass through the loop body, per
  token kind, in EVERY scan mode: the effect on the parser object in terms of the level the token
  sits in. (What the six token cases of the loop body do for every scan word is in `Cases.lean`.)
-/
import Binson.Lemmas.PassTok
namespace Binson

/-- what the IN_ARRAY_1/IN_ARRAY_2 toggle can do to a level -/
def ArrSim (lv lv' : Level) : Prop :=
  lv' = lv ∨ (lv.flags.inArray = true ∧ (lv' = { lv with flags := .arr1 } ∨ lv' = { lv with flags := .arr2 }))

theorem arrBlock_sim (lv : Level) (tok : Tok) (b : Bool) (s : Option Scan) : ArrSim lv (arrBlock lv tok b s).1 := by
  rcases arrBlock_cases lv tok b s with ⟨_, e⟩ | ⟨h, _, ⟨_, _, e⟩ | ⟨_, _, e⟩ | ⟨_, e⟩⟩ <;> rw [e]
  · exact Or.inl rfl
  · exact Or.inr ⟨h, Or.inr rfl⟩
  · exact Or.inr ⟨h, Or.inl rfl⟩
  · exact Or.inl rfl

/-- flags of a level in which a value may come next (`undef`: the root container is still to be entered) -/
def ValPos (f : Flags) : Prop := f = .expValue ∨ f = .arr1 ∨ f = .arr2 ∨ f = .undef

/-- flags of the level before / after a value token has been accepted -/
def ValAfter (f f' : Flags) : Prop :=
  (f = .expValue ∧ f' = .expField) ∨ ((f = .arr1 ∨ f = .arr2) ∧ (f' = .arr1 ∨ f' = .arr2)) ∨ (f = .undef ∧ f' = .undef)

/-- the same up to the IN_ARRAY_1/IN_ARRAY_2 toggle -/
def FlagsSim (f f' : Flags) : Prop := f' = f ∨ ((f = .arr1 ∨ f = .arr2) ∧ (f' = .arr1 ∨ f' = .arr2))

def Level.Sim (l l' : Level) : Prop := l'.ad = l.ad ∧ l'.name = l.name ∧ FlagsSim l.flags l'.flags

theorem inArray_cases {f : Flags} (h : f.inArray = true) : f = .arr1 ∨ f = .arr2 ∨ ∃ o, f = .junk o true := by
  cases f with
  | arr1 => exact Or.inl rfl
  | arr2 => exact Or.inr (Or.inl rfl)
  | junk o a => cases a with
    | true => exact Or.inr (Or.inr ⟨o, rfl⟩)
    | false => cases h
  | undef => cases h
  | expField => cases h
  | expValue => cases h

theorem objBlock_valpos {l : Level} {tok : Tok} (hf : ValPos l.flags) (hv : tok.isValue = true) :
    objBlock l tok = some (if l.flags = .expValue then { l with flags := .expField } else l, tok) := by
  rcases hf with h | h | h | h
  · rw [if_pos h]; exact objBlock_val_obj h hv
  · rw [if_neg (by rw [h]; exact fun e => nomatch e)]; exact objBlock_arr (Or.inl h)
  · rw [if_neg (by rw [h]; exact fun e => nomatch e)]; exact objBlock_arr (Or.inr h)
  · rw [if_neg (by rw [h]; exact fun e => nomatch e)]
    unfold objBlock
    simp [h, Flags.inObject]

/-- the level handed to a value case, from the level `X` read back after the classification stage -/
theorem valAfter_of {L X lv' : Level} (hf : ValPos L.flags) (ha : X.ad = L.ad) (hn : X.name = L.name) (hx : X.flags = L.flags)
    (h : ArrSim (if X.flags = .expValue then { X with flags := .expField } else X) lv') :
    lv'.ad = L.ad ∧ lv'.name = L.name ∧ ValAfter L.flags lv'.flags := by
  by_cases hv : X.flags = .expValue
  · rw [if_pos hv] at h
    rcases h with h | ⟨h, _⟩
    · rw [h]; exact ⟨ha, hn, Or.inl ⟨hx ▸ hv, rfl⟩⟩
    · cases h
  · rw [if_neg hv] at h
    rw [hx] at hv
    rcases h with h | ⟨h1, h2⟩
    · rw [h]
      refine ⟨ha, hn, ?_⟩
      rw [hx]
      rcases hf with h | h | h | h
      · exact absurd h hv
      · exact Or.inr (Or.inl ⟨Or.inl h, Or.inl h⟩)
      · exact Or.inr (Or.inl ⟨Or.inr h, Or.inr h⟩)
      · exact Or.inr (Or.inr ⟨h, h⟩)
    · rw [hx] at h1
      have hL : L.flags = .arr1 ∨ L.flags = .arr2 := by
        rcases hf with h | h | h | h
        · exact absurd h hv
        · exact Or.inl h
        · exact Or.inr h
        · rw [h] at h1; cases h1
      rcases h2 with h | h <;> rw [h]
      · exact ⟨ha, hn, Or.inr (Or.inl ⟨hL, Or.inl rfl⟩)⟩
      · exact ⟨ha, hn, Or.inr (Or.inl ⟨hL, Or.inr rfl⟩)⟩

theorem flagsSim_unconsumed {f f' : Flags} (h : ValAfter f f') : FlagsSim f (if f' = .expField then .expValue else f') := by
  rcases h with ⟨h1, h2⟩ | ⟨h1, h2⟩ | ⟨h1, h2⟩
  · rw [if_pos h2]; exact Or.inl h1.symm
  · rw [if_neg (by rcases h2 with h | h <;> rw [h] <;> exact fun e => nomatch e)]
    exact Or.inr ⟨h1, h2⟩
  · rw [if_neg (by rw [h2]; exact fun e => nomatch e), h2]; exact Or.inl h1.symm

theorem dispatch_scalar {tok : Tok} (h : tok.isScalar = true ∨ tok = .error) (st : LoopSt) (p : Parser) (lv : Level) (li : Nat)
    (s : Option Scan) (span : Span) (bc : Nat) (sn : Option (List UInt8)) (oa od : Nat) :
    dispatch st p lv li s tok span bc sn oa od = caseScalar st tok p lv li s span := by
  cases tok <;> first | rfl | exact absurd h (by decide)

/-- an iteration whose first two stages succeed is the `switch` on the level the object block hands on, up to
    the array toggle -/
theorem iter_p {st : LoopSt} (sn : Option (List UInt8)) (oa od : Nat) {tok tok' : Tok} {sp : Span} {bc : Nat} {q : Parser} {lv : Level}
    (hcl : classify st.p st.bc = ⟨tok, sp, bc, q⟩) (hne : tok ≠ .error) (hob : objBlock (q.getLvl q.lvlIdx) tok = some (lv, tok')) :
    ∃ lv' scan' st', ArrSim lv lv' ∧ iter st sn oa od = dispatch st' q lv' q.lvlIdx scan' tok' sp bc sn oa od := by
  rw [iter_eq, hcl]
  dsimp only
  rw [if_neg hne, hob]
  exact ⟨_, _, _, arrBlock_sim lv tok' _ st.scan, rfl⟩

end Binson
