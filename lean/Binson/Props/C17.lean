/-
  C17 — no heap, no recursion, no writable globals: footprint fixed by the caller.
  Statements are about the static model regenerated from the compiled objects on every run
  (Binson/Generated/Static.lean: one `Static.Cfg` per {gcc -O0,-O2,-Os} × {with, without print}).
-/
import Binson.Generated.Static
import Binson.Lemmas.StaticGraph
namespace Binson
open Static

/-- every regenerated configuration passes the decidable checks: edges strictly decrease the
    rank certificate, the stack-bound certificate is consistent, every frame is static with no
    variable-size object, no allocator is referenced, no writable static data exists -/
theorem c17_static_facts : ∀ c ∈ Gen.staticCfgs, c.ok = true :=
  fun c hc => okFast_sound c ((by decide +kernel : ∀ c ∈ Gen.staticCfgs, c.okFast = true) c hc)

theorem c17_six_configurations : Gen.staticCfgs.length = 6 := by decide

private theorem ok_parts {c : Cfg} (h : c.ok = true) :
    c.edgesRanked = true ∧ c.boundsOk = true ∧ c.framesStatic = true ∧ c.noAllocator = true ∧ c.noWritable = true := by
  unfold Cfg.ok at h
  simp only [Bool.and_eq_true] at h
  exact ⟨h.1.1.1.1.1.1, h.1.1.1.1.1.2, h.1.1.1.1.2, h.1.1.1.2, h.1.1.2⟩

/-- no recursion, direct or mutual (callbacks resolved to the functions whose address is taken) -/
theorem c17_no_recursion : ∀ c ∈ Gen.staticCfgs, ∀ chain : List Nat, c.isChain chain → chain.Nodup :=
  fun c hc chain h => chain_nodup c (ok_parts (c17_static_facts c hc)).1 chain h

/-- call depth is a compile-time constant: bounded by the rank of the entry function -/
theorem c17_call_depth : ∀ c ∈ Gen.staticCfgs, ∀ (a : Nat) (chain : List Nat), c.isChain (a :: chain) → chain.length ≤ c.rk a :=
  fun c hc a chain h => chain_length c (ok_parts (c17_static_facts c hc)).1 chain a h

/-- stack use of every execution is bounded by a per-configuration numeral, whatever the input -/
theorem c17_stack_bound : ∀ c ∈ Gen.staticCfgs, ∀ (a : Nat) (chain : List Nat), c.isChain (a :: chain) →
    c.stackOf (a :: chain) ≤ c.maxBound :=
  fun c hc a chain h =>
    Nat.le_trans (chain_stack c (ok_parts (c17_static_facts c hc)).2.1 chain a h) (bd_le_maxBound c a)

theorem c17_no_allocator_no_globals : ∀ c ∈ Gen.staticCfgs, c.noAllocator = true ∧ c.noWritable = true ∧ c.framesStatic = true :=
  fun c hc => let h := ok_parts (c17_static_facts c hc); ⟨h.2.2.2.1, h.2.2.2.2, h.2.2.1⟩

/-- non-vacuity: the configurations are non-trivial graphs (the parser's token loop calls helpers) -/
example : ∀ c ∈ Gen.staticCfgs, 20 ≤ c.nDefined ∧ 10 ≤ c.edges.length := by decide

end Binson
