/-
  C01 — the parser never touches memory outside the buffer and its own state.
  In the model every buffer read and every `state[i]` access goes through `touchBuf`/`touchLvl`/
  `setLvl`, which set the ghost `fault` when the range is not inside `buf` / `levels`; writes are
  to the model's `Parser` value (the parser object and its state array) by construction.
  `Shape` contains `fault = false`, `used ≤ size` and "every stored span is inside the buffer".
-/
import Binson.Lemmas.Safe
import Binson.Model.Transcribe
namespace Binson

/-- init on ANY allocated object (arbitrary previous contents), accepted or rejected, leaves the
    object in shape: no out-of-bounds access happened and none is pending -/
theorem c01_init_shape (g : Parser) (ha : Alloc g) (buf : Array UInt8) (t : Nat) (ht : t = 1 ∨ t = 2)
    (hb : buf.size < 2 ^ 63) : Shape (init g buf t).1 :=
  init_shape g ha buf t ht hb

/-- one public call, whatever it is and whatever the parser's error state: still in shape (no
    fault), and the span it hands back (name, string, bytes, raw) lies inside the buffer -/
theorem c01_step_safe (p : Parser) (op : Op) (h : Shape p) (hv : op.Valid) :
    Shape (step p op).1 ∧ (step p op).1.fault = false ∧ (step p op).2.SpansInside (step p op).1.size :=
  ⟨step_shape p op h hv, (step_shape p op h hv).hnf, step_spans p op h hv⟩

/-- any sequence of public calls after an init on arbitrary memory - return values ignored,
    including after an init that rejected the buffer - never faults, and every prefix of the
    sequence hands back only spans inside the buffer of the most recent init -/
theorem c01_run_safe (g : Parser) (ha : Alloc g) (buf : Array UInt8) (t : Nat) (ht : t = 1 ∨ t = 2)
    (hb : buf.size < 2 ^ 63) (ops : List Op) (hv : ∀ op ∈ ops, op.Valid) :
    (run (init g buf t).1 ops).fault = false ∧
    ∀ (pre : List Op) (op : Op) (post : List Op), ops = pre ++ op :: post →
      let q := run (init g buf t).1 pre
      (step q op).2.SpansInside (step q op).1.size ∧ (step q op).1.used ≤ (step q op).1.size ∧
      (step q op).1.buf.size = (step q op).1.size :=
  run_safe _ (init_shape g ha buf t ht hb) ops hv

/-- while no error is pending, every span stored in any state entry (what `string_equals`, the
    lookup comparison and the print callbacks read) lies inside the buffer -/
theorem c01_stored_spans (p : Parser) (h : Shape p) (he : p.err = .none) (i : Nat) :
    (∀ s, (p.getLvl i).name = some s → s.off + s.len ≤ p.buf.size) ∧
    (∀ s, (p.getLvl i).val = .span s → s.off + s.len ≤ p.buf.size) := by
  have := h.hsp he i
  rw [h.hbs]; exact this

/-- non-vacuity: a garbage-filled object with a 1-entry state array is `Alloc`, a 1-byte buffer is
    rejected by init, and `leave_object` afterwards is covered by the theorem -/
example : Alloc (garbageParser 1) ∧ (init (garbageParser 1) #[0x40] 1).2 = false ∧
    (run (init (garbageParser 1) #[0x40] 1).1 [.leaveObject, .leaveArray, .getDepth]).fault = false := by
  refine ⟨⟨rfl, by decide, rfl, rfl⟩, by decide, ?_⟩
  exact (c01_run_safe (garbageParser 1) ⟨rfl, by decide, rfl, rfl⟩ #[0x40] 1 (Or.inl rfl) (by decide) _
    (by intro op h; simp at h; rcases h with rfl | rfl | rfl <;> trivial)).1

end Binson
