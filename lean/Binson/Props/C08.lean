/-
  C08 — streaming traversal is exactly as strict as verify.

  ⇒ (`c08_traversal_ok_implies_verify`): for ARBITRARY bytes and ANY sequence of navigation calls
  whatsoever — protocol-following or not; next, next_ensure, lookups, go_into_*, leave_*, get_raw,
  getters, in any order, return values ignored — if at the end the error flag is NONE and the root
  container has been closed with the cursor at the end of the buffer, then verify accepts the same
  bytes. Stronger than the property asks (which restricts to protocol-following complete traversals
  whose calls all succeeded): the validation done by the token loop does not depend on the scan mode.
  Proof: between loop iterations the levels mirror a zipper context of the bytes consumed so far,
  in every scan mode (Lemmas/Stream*.lean); the soundness of verify is the VERIFY-mode instance.

  ⇐ (`c08_verify_implies_traversal_ok`): verify accepts ⇒ the bytes are `encode v` of a well-formed
  document (`verify_iff`), and then EVERY protocol-following call sequence — any mix of entering,
  skipping, field lookups, early leaves and raw extraction, of any length — runs with the error flag NONE
  after every call, every go_into_* / leave_* returning true, get_raw on a container returning true, and
  when the root has been left the parser is `RootClosed` (so ⇒ applies to the same run). This is the
  navigation refinement read for "no error / successful calls" (Lemmas/NavCor.lean).
-/
import Binson.Lemmas.Stream
import Binson.Lemmas.NavCor
import Binson.Model.Transcribe
namespace Binson

theorem c08_traversal_ok_implies_verify (g : Parser) (ha : Alloc g) (hmd : g.maxDepth ≤ 255) (buf : Array UInt8)
    (hsz : buf.size < 2 ^ 63) (root : Root) (hi : (init g buf (rootNum root)).2 = true)
    (ops : List Op) (hnav : ∀ op ∈ ops, op.IsNav)
    (herr : (run (init g buf (rootNum root)).1 ops).err = .none)
    (hclosed : RootClosed (run (init g buf (rootNum root)).1 ops)) :
    (verify (init g buf (rootNum root)).1).2.1 = true :=
  stream_sound g ha hmd buf hsz root hi ops hnav herr hclosed

/-- contrapositive, as an application reads it: on bytes verify rejects, NO sequence of navigation
    calls ends with the root closed and the error flag clear — a single check of the error flag after
    leaving the root gives verify's verdict -/
theorem c08_rejected_bytes_never_pass (g : Parser) (ha : Alloc g) (hmd : g.maxDepth ≤ 255) (buf : Array UInt8)
    (hsz : buf.size < 2 ^ 63) (root : Root) (hi : (init g buf (rootNum root)).2 = true)
    (hv : (verify (init g buf (rootNum root)).1).2.1 = false)
    (ops : List Op) (hnav : ∀ op ∈ ops, op.IsNav) (hclosed : RootClosed (run (init g buf (rootNum root)).1 ops)) :
    (run (init g buf (rootNum root)).1 ops).err ≠ .none := by
  intro herr
  have := stream_sound g ha hmd buf hsz root hi ops hnav herr hclosed
  rw [hv] at this; cases this


/-- ⇐: on bytes verify accepts, every protocol-following traversal succeeds. If `init` + `verify`
    accept arbitrary bytes `buf`, then `buf` is the canonical encoding of a well-formed document `v`
    fitting the depth configuration, `verify` hands the parser object back as `init` made it, and for
    EVERY protocol-following call sequence `ops` (each call allowed by the reference cursor at its
    turn; `navRun` stops at the first call that is not):
    * the machine agrees with the reference cursor on every observable of every call (`NavOk`);
    * the state reached has no error latched (so no call of the sequence left one), no fault;
    * if the sequence has left the root (`c.done`), the machine's root is closed at the end of the
      buffer (`RootClosed`: exactly the hypothesis of the ⇒ direction);
    * every further allowed call leaves `err = NONE`; every allowed `go_into_*` / `leave_*` returns
      true; `get_raw` on a container returns true with the container's span.
    As every prefix of a protocol-following sequence is one, this covers every call of the sequence. -/
theorem c08_verify_implies_traversal_ok (g : Parser) (ha : Alloc g) (hmd : g.maxDepth ≤ 255) (root : Root) (buf : Array UInt8)
    (hsz : buf.size < 2 ^ 63) (hi : (init g buf (rootNum root)).2 = true)
    (hv : (verify (init g buf (rootNum root)).1).2.1 = true) :
    ∃ v, buf = (encode v).toArray ∧ wfDoc root g.maxDepth v = true ∧
      (verify (init g buf (rootNum root)).1).1 = (init g buf (rootNum root)).1 ∧
      ∀ ops : List COp,
        NavOk (init g buf (rootNum root)).1 (Cursor.start root v) ops ∧
        ∀ p c, (p, c) = navRun ((init g buf (rootNum root)).1, Cursor.start root v) ops →
          p.err = .none ∧ p.fault = false ∧ p.oof = false ∧
          (c.done = true → RootClosed p) ∧
          ∀ op, c.allowed op = true →
            (machNav p op).1.err = .none ∧
            ((op = .enterObj ∨ op = .enterArr ∨ op = .leaveObj ∨ op = .leaveArr) → (machNav p op).2.1 = true) ∧
            (op = .raw → ∀ n, c.cur = some n → (n.item.ty = .object ∨ n.item.ty = .array) →
              (machNav p op).2.1 = true ∧ (machNav p op).2.2 = some ⟨n.item.start, n.item.len⟩) := by
  obtain ⟨v, hwf, rfl⟩ := verify_sound_enc g ha hmd buf hsz root hi hv
  have hS : NavSetup g root v := ⟨ha, hmd, hwf, by simpa using hsz⟩
  refine ⟨v, rfl, hwf, verify_gives_back hS, fun ops => ⟨nav_refines g ha hmd root v hwf hS.sz ops, ?_⟩⟩
  intro p c e
  have hR : Reachable g root v p c := ⟨hS, ops, e⟩
  obtain ⟨e1, e2, e3⟩ := reachable_err hR
  refine ⟨e1, e2, e3, reachable_closed hR, fun op ha => ?_⟩
  obtain ⟨o1, o2, o3, _⟩ := reachable_obs hR op ha
  refine ⟨o3, fun hop => by rw [o1]; exact Cursor.step_ok_of_allowed c op ha hop, ?_⟩
  intro hop n hcur hty
  subst hop
  obtain ⟨s1, _⟩ := Cursor.step_raw_cont hcur hty
  rw [s1] at o1 o2
  exact ⟨o1, o2⟩

/-- non-vacuity: `{"a":true}` entered, one `next`, left: root closed, no error -/
example : let p := run (init (garbageParser 2) #[0x40, 0x14, 0x01, 0x61, 0x44, 0x41] 1).1 [.goIntoObject, .next, .leaveObject]
    p.err = .none ∧ RootClosed p := by
  unfold RootClosed; decide

end Binson
