/-
  C14 — the printed text is the faithful rendering.
  Statements are about the stdout callback `_binson_print_cb` (`printCbV`/`printFoldV`) run over the
  view list a value produces (`viewsOf`, Lemmas/Views.lean); the reference is `render`
  (Spec/Render.lean). The integer and double formatters are parameters (`Fmts`).
  That `_binson_to_string_cb` stores the very same text is C13 (`to_string_ctx`, `to_string_text`).
-/
import Binson.Lemmas.PrintLemmas
import Binson.Lemmas.VerifyValid
namespace Binson

/-- what `binson_parser_print` can be called on: an object or an array -/
def rootIsContainer : Value → Bool
  | .obj _ => true
  | .arr _ => true
  | _ => false

/-- the text the stdout callback produces for the views of a value, started in the initial
    `pstate` 0, is the reference rendering. (It holds for every value; the roots the API can
    produce are the containers, see `text_eq_render_obj` / `text_eq_render_arr`.) -/
theorem text_eq_render (F : Fmts) (v : Value) :
    printFoldV F 0 (viewsOf 0 v) = render F v :=
  (views_value F v 0 0).1

/-- object root -/
theorem text_eq_render_obj (F : Fmts) (fs : Fields) :
    printFoldV F 0 (viewsOf 0 (.obj fs)) = 0x7b :: (renderF F true fs ++ [0x7d]) := by
  rw [text_eq_render, render]

/-- array root -/
theorem text_eq_render_arr (F : Fmts) (xs : Elems) :
    printFoldV F 0 (viewsOf 0 (.arr xs)) = 0x5b :: (renderE F true xs ++ [0x5d]) := by
  rw [text_eq_render, render]

/-- a container root leaves the callback in `pstate` 2 -/
theorem pstate_after_root (F : Fmts) (v : Value) (hroot : rootIsContainer v = true) :
    psFoldV F 0 (viewsOf 0 v) = 2 := by
  have h := (views_value F v 0 0).2
  cases v <;> simp_all [rootIsContainer, endPs]

/-! The state machine, as proved by mutual induction (Lemmas/PrintLemmas.lean `views_value`,
    `views_elems`, `views_fields`), restated per context. -/

/-- a value after its field name (`pstate` 2; in fact any `pstate` other than 4, 5): exactly its
    rendering, no separator; scalars leave `pstate` alone, containers close to 2 -/
theorem text_in_object (F : Fmts) (v : Value) (ps : Nat) (h4 : ps ≠ 4) (h5 : ps ≠ 5) :
    printFoldV F ps (viewsOf 0 v) = render F v ∧
    psFoldV F ps (viewsOf 0 v) = (if rootIsContainer v then 2 else ps) := by
  have h := views_value F v 0 ps
  rw [show commaIf5 ps = [] from if_neg h5] at h
  refine ⟨h.1, ?_⟩
  rw [h.2]
  cases v <;> simp [endPs, rootIsContainer, h4]

/-- a value inside an array (array depth `ad + 1 ≥ 1`): a comma iff an element precedes it
    (`pstate` 5), then its rendering; leaves `pstate` 5 — also after `{}` and `[]` (finding F4) -/
theorem text_in_array (F : Fmts) (v : Value) (ad ps : Nat) (hp : ps = 4 ∨ ps = 5) :
    printFoldV F ps (viewsOf (ad + 1) v) = (if ps = 5 then [0x2c] else []) ++ render F v ∧
    psFoldV F ps (viewsOf (ad + 1) v) = 5 := by
  have h := views_value F v (ad + 1) ps
  rw [endPs_in_array ad v ps hp] at h
  exact h

/-- the elements of an array, entered with `pstate` 4 (just after '[') or 5 -/
theorem text_of_elems (F : Fmts) (xs : Elems) (ad ps : Nat) (hp : ps = 4 ∨ ps = 5) :
    printFoldV F ps (viewsOfE (ad + 1) xs) = renderE F (decide (ps = 4)) xs ∧
    psFoldV F ps (viewsOfE (ad + 1) xs) = (match xs with | .nil => ps | .cons _ _ => 5) := by
  have h := views_elems F xs ad ps hp
  refine ⟨h.1, ?_⟩
  rw [h.2]
  cases xs <;> rfl

/-- the fields of an object, entered with `pstate` 1 (just after '{') or 2 -/
theorem text_of_fields (F : Fmts) (fs : Fields) (ps : Nat) (hp : ps = 1 ∨ ps = 2) :
    printFoldV F ps (viewsOfF fs) = renderF F (decide (ps = 1)) fs ∧
    psFoldV F ps (viewsOfF fs) = (match fs with | .nil => ps | .cons _ _ _ => 2) := by
  have h := views_fields F fs ps hp
  refine ⟨h.1, ?_⟩
  rw [h.2]
  cases fs <;> rfl

/-- `%.*s` prints a span up to its first NUL; the hex dump is two digits per byte -/
theorem cstr_is_upToNul (s : List UInt8) : cstr s = upToNul s := cstr_eq_upToNul s
theorem hexAll_is_hexText (s : List UInt8) : hexAll s = hexText s := hexAll_eq_hexText s

/-- `{"A":{},"B":[1,{}]}` -/
def c14Sample : Value :=
  .obj (.cons [0x41] (.obj .nil) (.cons [0x42] (.arr (.cons (.int 1) (.cons (.obj .nil) .nil))) .nil))

example : printFoldV stdFmts 0 (viewsOf 0 c14Sample) = render stdFmts c14Sample :=
  text_eq_render stdFmts c14Sample

example : rootIsContainer c14Sample = true := rfl

/-- and the rendering is the expected text `{"A":{},"B":[1,{}]}` (with a one-digit `%lld`) -/
example : render ⟨fun _ => [0x31], fun _ => []⟩ c14Sample =
    [0x7b, 0x22, 0x41, 0x22, 0x3a, 0x7b, 0x7d, 0x2c, 0x22, 0x42, 0x22, 0x3a, 0x5b, 0x31, 0x2c, 0x7b, 0x7d,
     0x5d, 0x7d] := by decide

/-- C14 end to end: for every well-formed document, what `binson_parser_print` sends to stdout (and,
    by `to_string_protocol`, what `to_string` stores) is the reference rendering, from any allocated
    parser object -/
theorem print_is_render (F : Fmts) (g : Parser) (ha : Alloc g) (hmd : g.maxDepth ≤ 255) (root : Root) (v : Value)
    (hwf : wfDoc root g.maxDepth v = true) (hsz : (encode v).length < 2 ^ 63) :
    (print F (init g (encode v).toArray (rootNum root)).1).2.1 = true ∧
    (print F (init g (encode v).toArray (rootNum root)).1).2.2 = render F v := by
  obtain ⟨_, hF, hvt, hvv⟩ := verify_wellformed g ha hmd root v hwf hsz
  unfold print
  refine ⟨hvt, ?_⟩
  show printFold F _ 0 _ = _
  unfold printFold
  rw [hF.buf, hvv]
  exact text_eq_render F v

end Binson
