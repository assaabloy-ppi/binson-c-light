/-
  C09 — errors latch: one check at the end is enough.
  Parser: with an error pending, every call other than init/reset/verify changes nothing at
  all and answers neutrally. Writer: after the first failing write every later write returns
  false, stores nothing, the counter keeps counting, the error stays.
  (to_string/print call verify and therefore also reset the parser; stated in DESIGN.md.)
-/
import Binson.Lemmas.Latch
import Binson.Lemmas.WriterXLemmas
import Binson.Lemmas.WriterLemmas
import Binson.Model.Transcribe
namespace Binson

/-! ### parser -/

/-- with an error pending, any advancing call or getter leaves the parser exactly as it was
    (so the error code stays) and returns its neutral result: false / NONE / 0 / NULL -/
theorem parser_latch (p : Parser) (h : Shape p) (he : p.err ≠ .none) (op : Op) (hr : op.Resetting = false) :
    (step p op).1 = p ∧ (step p op).2 = neutralRet p op := by
  rw [pstep_latched p h he op hr]; exact ⟨rfl, rfl⟩

/-- the neutral results, spelled out: advancing calls false, type NONE, integer 0, double +0.0, spans NULL -/
theorem neutral_results (p : Parser) :
    neutralRet p .next = .bool false ∧ neutralRet p .goIntoObject = .bool false ∧ neutralRet p .leaveArray = .bool false ∧
    neutralRet p .getType = .ty .none ∧ neutralRet p .getInteger = .int 0 ∧ neutralRet p .getBoolean = .bool false ∧
    neutralRet p .getDouble = .nat 0 ∧ neutralRet p .getName = .span none ∧ neutralRet p .getStringBbuf = .span none ∧
    neutralRet p .getBytesBbuf = .span none ∧ neutralRet p .getRaw = .raw false ⟨0, 0⟩ ∧
    (∀ nm, neutralRet p (.field nm) = .bool false) ∧ (∀ s, neutralRet p (.stringEquals s) = .bool false) :=
  ⟨rfl, rfl, rfl, rfl, rfl, rfl, rfl, rfl, rfl, rfl, rfl, fun _ => rfl, fun _ => rfl⟩

/-- any sequence of such calls: the parser does not move and the error stays set -/
theorem parser_latch_run (p : Parser) (h : Shape p) (he : p.err ≠ .none) (ops : List Op)
    (hr : ∀ op ∈ ops, op.Resetting = false) : run p ops = p ∧ (run p ops).err ≠ .none := by
  rw [prun_latched ops p h he hr]; exact ⟨rfl, he⟩

/-- a single check after the last call detects a failure anywhere in the sequence: if some
    prefix of the calls (none of them init/reset/verify afterwards) ends with an error set, the
    error is still set at the end -/
theorem single_check_suffices (p : Parser) (h : Shape p) (pre post : List Op) (hv : ∀ op ∈ pre, op.Valid)
    (hr : ∀ op ∈ post, op.Resetting = false) (he : (run p pre).err ≠ .none) :
    (run p (pre ++ post)).err = (run p pre).err ∧ (run p (pre ++ post)).err ≠ .none := by
  have hs : Shape (run p pre) := run_shape pre p h hv
  have : run p (pre ++ post) = run (run p pre) post := by simp [run, List.foldl_append]
  rw [this, prun_latched post _ hs he hr]
  exact ⟨rfl, he⟩

/-- non-vacuity: a truncated document puts a shaped parser into the RANGE error state -/
example : let p := (next (goIntoObject (init (garbageParser 2) #[0x40, 0x14, 0x41] 1).1).1).1
    p.err = .range ∧ (step p .next).2 = .bool false ∧ (step p .getType).2 = .ty .none := by decide

/-! ### writer -/

/-- after the first failing write every later call (valid or not) returns false, stores nothing,
    keeps the error set, and the counter keeps counting (modulo 2^64, as `size_t`) -/
theorem writer_latch (w : Writer) (op : WOp) (h : w.err ≠ .none) :
    (w.step op).2 = false ∧ (w.step op).1.mem = w.mem ∧ (w.step op).1.err ≠ .none ∧
    (w.step op).1.fault = w.fault ∧
    (w.step op).1.used = (w.used + totalLen op.pieces) % two64 := by
  obtain ⟨e, he, eq⟩ := step_latched w op h
  rw [eq]
  exact ⟨rfl, rfl, he, rfl, rfl⟩

theorem writer_latch_run (w : Writer) (ops : List WOp) (h : w.err ≠ .none) :
    (w.run ops).err ≠ .none ∧ (w.run ops).mem = w.mem := by
  obtain ⟨e, he, u, eq⟩ := run_latched ops w h
  rw [eq]
  exact ⟨he, rfl⟩


/-- the same over the writer's FULL call vocabulary (`WOpX`: valid calls, a NULL name or data pointer, a raw write
    of SIZE_MAX bytes): once the flag is set - by overflow or by a NULL argument - every later call other than a
    reset returns false, stores nothing, and the flag stays set -/
theorem writer_latch_full (w : Writer) (op : WOpX) (h : w.err ≠ .none) (hr : op ≠ .reset) :
    (w.stepX op).2 = false ∧ (w.stepX op).1.mem = w.mem ∧ (w.stepX op).1.err ≠ .none ∧ (w.stepX op).1.fault = w.fault := by
  obtain ⟨e, he, u, eq⟩ := stepX_latched w op h hr
  rw [eq]
  exact ⟨rfl, rfl, he, rfl⟩

theorem writer_latch_full_run (ops : List WOpX) (w : Writer) (h : w.err ≠ .none) (hn : ∀ op ∈ ops, op ≠ .reset) :
    (w.runX ops).err ≠ .none ∧ (w.runX ops).mem = w.mem ∧ (w.runX ops).fault = w.fault := by
  obtain ⟨e, he, u, eq⟩ := runX_latched ops w h hn
  rw [eq]
  exact ⟨he, rfl, rfl⟩

/-- the calls outside `WOp` themselves: false, nothing stored, an error set -/
theorem writer_invalid_calls (w : Writer) (op : WOpX) (hv : ∀ o, op ≠ .op o) (hr : op ≠ .reset) :
    (w.stepX op).2 = false ∧ (w.stepX op).1.mem = w.mem ∧ (w.stepX op).1.err ≠ .none ∧ (w.stepX op).1.fault = w.fault ∧
    (w.stepX op).1.cap = w.cap := by
  obtain ⟨e, he, u, eq⟩ := stepX_invalid w op hv hr
  rw [eq]
  exact ⟨rfl, rfl, he, rfl, rfl⟩

/-- non-vacuity: a 1-byte buffer overflows on the second byte -/
example : ((Writer.init #[0] 1).1.run [.objBegin, .objEnd]).err = .range := by decide

end Binson
