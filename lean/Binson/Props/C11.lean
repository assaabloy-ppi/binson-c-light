/-
  C11 — get_raw / parser_to_writer return exactly the bytes of the current container.
  `Reachable`: the pair (machine state, reference cursor) after any protocol-following call sequence on
  any valid document (any preceding navigation history, any container position, any nesting depth).
  `docSpan v n` = the bytes `(encode v).drop start |>.take len` of the node's span.
-/
import Binson.Lemmas.NavCor
namespace Binson

/-- on an un-entered object or array: the span runs from its BEGIN byte to its matching END byte, is the
    encoding of the sub-value and by itself a valid standalone document of that kind (init + verify accept
    it alone at the same max_depth), and the cursor continues with the element that follows -/
theorem c11_raw_container {g : Parser} {root : Root} {v : Value} {p : Parser} {c : Cursor}
    (h : Reachable g root v p c) (hfr : c.frames ≠ []) {n : Node} (hcur : c.cur = some n)
    (hty : n.item.ty = .object ∨ n.item.ty = .array) :
    (getRaw p).2 = (true, ⟨n.item.start, n.item.len⟩) ∧
    (∃ nm, n = annotate nm n.item.start n.value) ∧
    docSpan v n = encode n.value ∧ n.item.len = (encode n.value).length ∧
    ((n.item.ty = .object ∧ ∃ fs, n.value = .obj fs ∧ docSpan v n = 0x40 :: (encFields fs ++ [0x41])) ∨
     (n.item.ty = .array ∧ ∃ xs, n.value = .arr xs ∧ docSpan v n = 0x42 :: (encElems xs ++ [0x43]))) ∧
    wfDoc (rootOf n.value) g.maxDepth n.value = true ∧
    (∀ g', Alloc g' → g'.maxDepth = g.maxDepth →
      (init g' (docSpan v n).toArray (rootNum (rootOf n.value))).2 = true ∧
      (verify (init g' (docSpan v n).toArray (rootNum (rootOf n.value))).1).2.1 = true) ∧
    (getRaw p).1.err = .none ∧ (getRaw p).1.fault = false ∧
    (c.step .raw).1.cur = none ∧ (c.step .raw).1.frames = c.frames ∧
    Reachable g root v (getRaw p).1 (c.step .raw).1 :=
  raw_container h hfr hcur hty

/-- on anything that is not a container (current type neither OBJECT nor ARRAY), or with an error latched,
    `get_raw` and `parser_to_writer` return false and change nothing — for ANY parser state, directly from the code -/
theorem c11_raw_other (p : Parser) (W : Writer)
    (h : p.err ≠ .none ∨ ((p.getLvl p.cur).ctype ≠ .object ∧ (p.getLvl p.cur).ctype ≠ .array)) :
    (getRaw p).1 = p ∧ (getRaw p).2.1 = false ∧ parserToWriter p W = (p, W, false) := by
  have key : (getRaw p).1 = p ∧ (getRaw p).2.1 = false := by
    by_cases he : p.err = .none
    · rcases h with h | ⟨h1, h2⟩
      · exact absurd he h
      · rw [getRaw_scalar he h1 h2]; exact ⟨rfl, rfl⟩
    · unfold getRaw; rw [if_pos he]; exact ⟨rfl, rfl⟩
  refine ⟨key.1, key.2, ?_⟩
  unfold parserToWriter
  simp only [key.2, Bool.not_false, if_true, key.1]

/-- parser_to_writer appends exactly those bytes to the writer -/
theorem c11_to_writer_appends {g : Parser} {root : Root} {v : Value} {p : Parser} {c : Cursor}
    (h : Reachable g root v p c) (hfr : c.frames ≠ []) {n : Node} (hcur : c.cur = some n)
    (hty : n.item.ty = .object ∨ n.item.ty = .array)
    (W : Writer) (he : W.err = .none) (hb : W.bufNull = false) (hroom : W.used + n.item.len ≤ W.cap) (hcap : W.cap < two64) :
    parserToWriter p W = ((getRaw p).1, W.appended (docSpan v n), true) ∧
    (docSpan v n).length = n.item.len ∧
    (W.appended (docSpan v n)).used = W.used + n.item.len ∧ (W.appended (docSpan v n)).err = .none :=
  to_writer_appends h hfr hcur hty W he hb hroom hcap

end Binson
