/-
  C07 — field lookup finds exactly the present names and never loses later fields.

  All statements are about a REACHABLE pair (p, c): the machine state `p` and the reference cursor `c`
  after ANY protocol-following call sequence (next / enter / leave / get_raw / lookups, any length) on
  ANY valid document (`Reachable`, Lemmas/NavCorBase.lean; `c07_reachable` builds it from the plain
  hypotheses), with the cursor inside an object. `c.namesAhead` are the names of the fields not yet
  returned in that object, in document order; names are byte strings compared over their full length
  (0x00 and bytes >= 0x80 included).
-/
import Binson.Lemmas.NavCor
namespace Binson

/-- every pair reached from init by a protocol-following call sequence on a valid document is `Reachable` -/
theorem c07_reachable (g : Parser) (ha : Alloc g) (hmd : g.maxDepth ≤ 255) (root : Root) (v : Value)
    (hwf : wfDoc root g.maxDepth v = true) (hsz : (encode v).length < 2 ^ 63) (ops : List COp) :
    Reachable g root v (navRun ((init g (encode v).toArray (rootNum root)).1, Cursor.start root v) ops).1
      (navRun ((init g (encode v).toArray (rootNum root)).1, Cursor.start root v) ops).2 :=
  ⟨⟨ha, hmd, hwf, hsz⟩, ops, rfl⟩

/-- a lookup returns true iff a field with exactly those bytes exists at or after the cursor; no error either way -/
theorem c07_lookup_iff {g : Parser} {root : Root} {v : Value} {p : Parser} {c : Cursor}
    (h : Reachable g root v p c) (hin : c.inObject = true) (nm : Bytes) :
    ((field p nm).2 = true ↔ nm ∈ c.namesAhead) ∧ (field p nm).1.err = .none ∧ (field p nm).1.fault = false :=
  ⟨lookup_iff h hin nm, lookup_no_error h hin nm⟩

/-- after a hit the getters refer to the field that was asked for: it is a field ahead of the cursor
    with that name (`fieldAhead`: the only one), all getters answer its decoded item, the cursor
    continues behind it (the names still ahead are those strictly greater), and the new pair is
    reachable, so everything holds again -/
theorem c07_lookup_hit {g : Parser} {root : Root} {v : Value} {p : Parser} {c : Cursor}
    (h : Reachable g root v p c) (hin : c.inObject = true) (nm : Bytes) (hfound : (field p nm).2 = true) :
    ∃ f fs n, c.frames = f :: fs ∧ n ∈ f.rest ∧ nameOf n = nm ∧ c.fieldAhead nm = some n ∧
      ItemMatches (field p nm).1 n.item ∧
      (c.step (.field nm)).1.cur = some n ∧
      (c.step (.field nm)).1.namesAhead = c.namesAhead.filter (fun x => bytesLt nm x) ∧
      (c.step (.field nm)).1.inObject = true ∧
      Reachable g root v (field p nm).1 (c.step (.field nm)).1 := by
  have hne := Cursor.frames_ne_of_inObject hin
  have hasc := (reachable_agree h).names_asc hin
  obtain ⟨s1, s2, s3⟩ := Cursor.step_field_cur hne hasc nm
  rw [lookup_ok_eq h hin, s3] at hfound
  cases hx : c.fieldAhead nm with
  | none => rw [hx] at hfound; cases hfound
  | some n =>
    obtain ⟨f, fs, hf, hm, hn⟩ := Cursor.fieldAhead_some hx
    rw [hx] at s1 s2
    have hit := (reachable_obs h (.field nm) hin).2.2.2.2.2.2 n.item s2
    rw [machNav_field] at hit
    obtain ⟨r1, r2⟩ := lookup_reachable h hin nm
    exact ⟨f, fs, n, hf, hm, hn, rfl, hit, s1, (Cursor.step_field_names hne hasc nm).2.1, r2, r1⟩

/-- a failed lookup raises no error and moves the cursor only past fields with smaller names: what is
    still ahead are exactly the names not smaller than `nm` (equivalently, the smaller ones were dropped
    from the front); nothing is current; the new pair is reachable -/
theorem c07_lookup_miss {g : Parser} {root : Root} {v : Value} {p : Parser} {c : Cursor}
    (h : Reachable g root v p c) (hin : c.inObject = true) (nm : Bytes) (hmiss : (field p nm).2 = false) :
    (field p nm).1.err = .none ∧
    (c.step (.field nm)).1.namesAhead = c.namesAhead.filter (fun x => !bytesLt x nm) ∧
    (c.step (.field nm)).1.namesAhead = c.namesAhead.dropWhile (fun x => bytesLt x nm) ∧
    (c.step (.field nm)).1.cur = none ∧
    (c.step (.field nm)).1.inObject = true ∧
    Reachable g root v (field p nm).1 (c.step (.field nm)).1 := by
  have hasc := (reachable_agree h).names_asc hin
  rw [lookup_ok_eq h hin] at hmiss
  obtain ⟨e1, e2, e3⟩ := (Cursor.step_field_names (Cursor.frames_ne_of_inObject hin) hasc nm).2.2.1 hmiss
  obtain ⟨r1, r2⟩ := lookup_reachable h hin nm
  exact ⟨(lookup_no_error h hin nm).1, e1, e2, e3, r2, r1⟩

/-- any series of lookups in (strictly) ascending name order finds exactly the names that are present,
    whatever absent names are asked for in between -/
theorem c07_lookup_series {g : Parser} {root : Root} {v : Value} {p : Parser} {c : Cursor}
    (h : Reachable g root v p c) (hin : c.inObject = true) (nms : List Bytes) (hasc : ascNames nms = true) :
    (lookups p nms).2 = nms.map (fun nm => decide (nm ∈ c.namesAhead)) :=
  lookup_series nms h hin hasc

/-- the `_ensure` variants succeed only if the type also matches and otherwise set WRONG_TYPE; an absent name: false, no error -/
theorem c07_lookup_ensure {g : Parser} {root : Root} {v : Value} {p : Parser} {c : Cursor}
    (h : Reachable g root v p c) (hin : c.inObject = true) (nm : Bytes) (t : Ty) :
    ((fieldEnsure p nm t).2 = true ↔ ∃ n, c.fieldAhead nm = some n ∧ n.item.ty = t) ∧
    (∀ n, c.fieldAhead nm = some n → n.item.ty = t →
      fieldEnsure p nm t = ((field p nm).1, true) ∧ (fieldEnsure p nm t).1.err = .none) ∧
    (∀ n, c.fieldAhead nm = some n → n.item.ty ≠ t →
      (fieldEnsure p nm t).2 = false ∧ (fieldEnsure p nm t).1.err = .wrongType) ∧
    (nm ∉ c.namesAhead → fieldEnsure p nm t = ((field p nm).1, false) ∧ (fieldEnsure p nm t).1.err = .none) :=
  lookup_ensure h hin nm t

end Binson
