/-
  C04 — the writer never writes past its buffer and always reports the exact size.
  `fault = false` is "never stores past `mem`", `mem.size = cap` says the array did not grow,
  `used` is the exact size of the output whether or not it fitted.
-/
import Binson.Lemmas.WriterLemmas
import Binson.Lemmas.WriterXLemmas
import Binson.Lemmas.OracleSpec
namespace Binson

/-- Any sequence of valid calls on an initialised writer over a buffer of exactly `cap` bytes:
    no store outside the buffer, `used` is the total size of all pieces (fitted or not),
    `err = range` exactly when that exceeds `cap`, and the buffer holds every piece up to the
    first one that did not fit, followed by its untouched old contents. -/
theorem writer_run (ops : List WOp) (cap : Nat) (m0 : Array UInt8) (hm : m0.size = cap)
    (hv : ∀ op ∈ ops, op.Valid) (hsz : totalLen (allPieces ops) < 2 ^ 63) (hcap : cap < 2 ^ 63) :
    let w := (Writer.init m0 cap).1.run ops
    w.fault = false ∧ w.mem.size = cap ∧ w.used = totalLen (allPieces ops) ∧
    (w.err = .range ↔ cap < totalLen (allPieces ops)) ∧ (w.err = .none ∨ w.err = .range) ∧
    w.mem.toList = fittedPieces cap 0 (allPieces ops) ++ m0.toList.drop (fittedPieces cap 0 (allPieces ops)).length :=
  writer_run64 ops cap m0 hm hv (by omega) (by omega)

/-- a buffer of exactly the reported size is filled exactly -/
theorem writer_rerun (ops : List WOp) (m0 : Array UInt8) (hv : ∀ op ∈ ops, op.Valid)
    (hm : m0.size = totalLen (allPieces ops)) (hsz : m0.size < 2 ^ 63) :
    let w := (Writer.init m0 m0.size).1.run ops
    w.err = .none ∧ w.mem.toList = (allPieces ops).flatten := by
  obtain ⟨h1, _, h3⟩ := writer_run_fits ops m0.size m0 rfl hv (by omega) (by omega)
  refine ⟨h1, ?_⟩
  rw [h3, ← hm, ← Array.length_toList, List.drop_length, List.append_nil]

/-- the hypotheses of `writer_run` are satisfiable, with overflow: `{"a":1}` into 5 bytes -/
example :
    let ops := [WOp.objBegin, .str [0x61], .int 1, .objEnd]
    (∀ op ∈ ops, op.Valid) ∧ totalLen (allPieces ops) = 7 ∧
    fittedPieces 5 0 (allPieces ops) = [0x40, 0x14, 0x01, 0x61] ∧
    ((Writer.init #[9, 9, 9, 9, 9] 5).1.run ops).mem.toList = [0x40, 0x14, 0x01, 0x61, 9] := by
  refine ⟨?_, by decide, by decide, by decide⟩
  intro op h
  simp only [List.mem_cons, List.not_mem_nil, or_false] at h
  rcases h with rfl | rfl | rfl | rfl <;> simp [WOp.Valid]

/-- the hypotheses of `writer_rerun` are satisfiable -/
example :
    let ops := [WOp.objBegin, .str [0x61], .int 1, .objEnd]
    let m0 : Array UInt8 := #[0, 0, 0, 0, 0, 0, 0]
    m0.size = totalLen (allPieces ops) ∧
    ((Writer.init m0 m0.size).1.run ops).mem.toList = [0x40, 0x14, 0x01, 0x61, 0x10, 0x01, 0x41] := by
  exact ⟨by decide, by decide⟩


/-- the destination image the driver's C04 oracle demands of the implementation (`fitted` over `specPieces`,
    Spec/WriterSpec.lean, written from the encoding rules) is exactly the image `writer_run` proves for the model -/
theorem c04_oracle_is_spec (cap : Nat) (ops : List WOp) :
    fitted cap 0 (ops.flatMap specPieces) = fittedPieces cap 0 (allPieces ops) :=
  oracle_image_eq cap ops


/-- a raw write with the absurd length SIZE_MAX is refused by the capacity test of `_write` (the sum wraps around
    to a value above the capacity or below the counter): `WOpX.hugeRaw` models exactly that outcome -/
theorem c04_huge_length_refused (w : Writer) (hu : w.used < two64) (hc : w.cap < sizeMaxW) :
    let c := (sizeMaxW + w.used) % two64
    c > w.cap ∨ c < w.used :=
  hugeRaw_refused w hu hc

end Binson
