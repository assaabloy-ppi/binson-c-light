/-
  C12 — a parser object carries nothing over: init/reset/verify give a clean start.
  `ObsEq` equates everything any public function can read: all scalar fields, and the state
  entries while no error is pending (with an error pending no function reads them).
-/
import Binson.Lemmas.Latch
import Binson.Lemmas.WriterXLemmas
import Binson.Lemmas.WriterLemmas
import Binson.Model.Transcribe
namespace Binson

/-- init on two arbitrary objects (uninitialised memory, or left over from any previous use) with
    the same depth configuration: same answer, observationally equal objects -/
theorem init_history_free (g g' : Parser) (ha : Alloc g) (ha' : Alloc g') (hm : g.maxDepth = g'.maxDepth)
    (buf : Array UInt8) (t : Nat) (ht : t = 1 ∨ t = 2) :
    (init g buf t).2 = (init g' buf t).2 ∧ ObsEq (init g buf t).1 (init g' buf t).1 :=
  init_free g g' ha ha' hm buf t ht

/-- after an accepted init the object is literally the same whatever it held before -/
theorem init_accepted_equal (g g' : Parser) (ha : Alloc g) (ha' : Alloc g') (hm : g.maxDepth = g'.maxDepth)
    (buf : Array UInt8) (t : Nat) (ht : t = 1 ∨ t = 2) (hok : (init g buf t).2 = true) :
    (init g buf t).1 = (init g' buf t).1 := by
  have h := init_free g g' ha ha' hm buf t ht
  apply h.2.eq_of_noerr
  unfold init at hok ⊢
  have h1 : g.maxDepth ≠ 0 := by have := ha.hmd; omega
  rw [if_neg h1] at hok ⊢
  exact reset_ok_err _ h1 rfl hok

/-- observationally equal objects answer every call alike, forever -/
theorem obs_bisim (p q : Parser) (hp : Shape p) (hq : Shape q) (e : ObsEq p q) (op : Op) (hv : op.Valid) :
    (step p op).2 = (step q op).2 ∧ ObsEq (step p op).1 (step q op).1 :=
  step_obsEq p q hp hq e op hv

/-- the results of ANY call sequence after init depend only on the buffer and the depth
    configuration, never on what the object was used for before -/
theorem run_history_free (g g' : Parser) (ha : Alloc g) (ha' : Alloc g') (hm : g.maxDepth = g'.maxDepth)
    (buf : Array UInt8) (t : Nat) (ht : t = 1 ∨ t = 2) (hb : buf.size < 2 ^ 63) (ops : List Op) (hv : ∀ op ∈ ops, op.Valid) :
    trace (init g buf t).1 ops = trace (init g' buf t).1 ops :=
  trace_obsEq ops _ _ (init_shape g ha buf t ht hb) (init_shape g' ha' buf t ht hb) (init_free g g' ha ha' hm buf t ht).2 hv

/-- a parser reused after a partly traversed document or after an error: `reset` behaves like
    an init of a fresh object over the same buffer -/
theorem reset_history_free (p g' : Parser) (hp : Shape p) (ha' : Alloc g') (hm : p.maxDepth = g'.maxDepth)
    (ht : p.ptype = 1 ∨ p.ptype = 2) :
    (reset p).2 = (init g' p.buf p.ptype).2 ∧ ObsEq (reset p).1 (init g' p.buf p.ptype).1 := by
  have hmp : p.maxDepth ≠ 0 := by have := hp.hmd; omega
  have hmq : g'.maxDepth ≠ 0 := by have := ha'.hmd; omega
  unfold init
  rw [if_neg hmq]
  exact reset_congr p _ hmp hp.hbs ⟨hp.hbs, rfl, hm.symm, rfl, by rw [hp.hlv, ha'.hlv, hm]⟩
    (hp.hnf.trans ha'.hnf.symm) (hp.hno.trans ha'.hno.symm) (Or.inl ht)

/-- verify can be repeated with the same verdict -/
theorem verify_repeat (p : Parser) (hp : Shape p) (ht : p.ptype = 1 ∨ p.ptype = 2) :
    (verify (verify p).1).2.1 = (verify p).2.1 := by
  have fr := verify_frame p hp
  have hs := verify_shape p hp
  exact ((verify_frame_eq p (verify p).1 hp hs fr ht).1).symm

/-- a successful verify leaves the cursor at the start: the object equals a freshly reset one -/
theorem verify_leaves_start (p : Parser) (hp : Shape p) (ht : p.ptype = 1 ∨ p.ptype = 2) (hok : (verify p).2.1 = true) :
    (verify p).1 = (reset p).1 ∧ (reset p).2 = true := by
  unfold verify at hok ⊢
  have hrs := reset_shape p hp
  have hmd : ∀ {q : Parser}, Shape q → q.maxDepth ≠ 0 := fun hq => by have := hq.hmd; omega
  have hfr := reset_frame p (hmd hp) hp.hbs
  have hre := reset_ok_err p (hmd hp) hp.hbs
  generalize hr : reset p = r at hok hrs hfr hre ⊢
  obtain ⟨q, ok⟩ := r
  simp only at hok hrs hfr hre ⊢
  cases ok
  · simp at hok
  · simp only [Bool.not_true, Bool.false_eq_true, if_false] at hok ⊢
    split at hok
    · rename_i hacc
      rw [if_pos hacc]
      refine ⟨?_, trivial⟩
      have ha := advance_spec q .verify none hrs
      have htq : q.ptype = 1 ∨ q.ptype = 2 := by rw [hfr.2.2.2.1]; exact ht
      have o := reset_frame_obsEq q (advance q .verify none).p hrs ha.shape ha.frame htq
      -- reset q is accepted exactly like reset p (q is the wiped p), so both results are error-free and equal
      have hq2 : (reset q).2 = true ∧ (reset q).1 = q := by
        have o2 := reset_frame_obsEq p q hp hrs hfr ht
        rw [hr] at o2
        simp only at o2
        refine ⟨o2.1.symm, ?_⟩
        exact (o2.2.eq_of_noerr (hre rfl)).symm
      have e1 : (reset q).1.err = .none := reset_ok_err q (hmd hrs) hrs.hbs hq2.1
      have := o.2.eq_of_noerr e1
      rw [← this, hq2.2]
    · simp at hok

/-- non-vacuity: garbage-filled objects satisfy `Alloc`, and init accepts a real document -/
example : Alloc (garbageParser 3) ∧ (init (garbageParser 3) #[0x40, 0x41] 1).2 = true := ⟨⟨rfl, by decide, rfl, rfl⟩, by decide⟩

/-! ### writer -/

/-- init gives a fresh writer -/
theorem writer_init_fresh (m : Array UInt8) (cap : Nat) :
    (Writer.init m cap).2 = true ∧ (Writer.init m cap).1.used = 0 ∧ (Writer.init m cap).1.err = .none :=
  ⟨rfl, rfl, rfl⟩

/-- a reset that returned true gives a fresh writer over the same buffer, whatever was written or failed before -/
theorem writer_reset_fresh (w : Writer) (h : w.reset.2 = true) :
    w.reset.1.used = 0 ∧ w.reset.1.err = .none ∧ w.reset.1.mem = w.mem ∧ w.reset.1.cap = w.cap := by
  rw [reset_ok w h]
  exact ⟨rfl, rfl, rfl, rfl⟩

/-- `writer_reset_fresh` is not vacuous -/
example : (Writer.init #[0, 0] 2).1.reset.2 = true := by decide


/-- whatever was written or failed before over the writer's full call vocabulary - NULL arguments, absurd lengths,
    earlier resets included - a reset that returns true gives a writer like a fresh one (counter 0, no error, same capacity) -/
theorem writer_reset_fresh_full (w : Writer) (ops : List WOpX) (h : (w.runX ops).reset.2 = true) :
    (w.runX ops).reset.1.used = 0 ∧ (w.runX ops).reset.1.err = .none ∧ (w.runX ops).reset.1.cap = (w.runX ops).cap := by
  rw [reset_ok _ h]
  exact ⟨rfl, rfl, rfl⟩

end Binson
