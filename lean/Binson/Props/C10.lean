/-
  C10 — decode then encode reproduces every valid document byte for byte.
  `transcribe` (Model/Transcribe.lean) is the program the harness runs on the real library: reset,
  traverse with next / get_name / typed getters / go_into / leave and hand each decoded name and value
  to the corresponding writer call. With `verify_iff` every valid document IS `encode v` of a `wfDoc`,
  so these theorems are "for every valid document", object- and array-rooted.
-/
import Binson.Lemmas.Walk
namespace Binson

/-- the transcription of a valid document into a big-enough destination yields exactly the input bytes -/
theorem c10_transcribe_identity (root : Root) (v : Value) (g : Parser) (ha : Alloc g) (md : Nat) (hmd : g.maxDepth = md) (hmd255 : md ≤ 255)
    (hwf : wfDoc root md v = true) (hsz : (encode v).length < 2 ^ 63)
    (m0 : Array UInt8) (cap : Nat) (hm : m0.size = cap) (hlen : (encode v).length ≤ cap) (hcap : cap < 2 ^ 63) :
    ∃ p' w', transcribe (init g (encode v).toArray (rootNum root)).1 (Writer.init m0 cap).1 = (p', w', true) ∧
      w' = (Writer.init m0 cap).1.run (opsOf v) ∧
      w'.err = .none ∧ w'.used = (encode v).length ∧ (w'.mem.extract 0 w'.used).toList = encode v :=
  transcribe_id root v g ha md hmd hmd255 hwf hsz m0 cap hm hlen hcap

/-- from ANY shaped parser object over the document (used before or not) and into ANY writer, the writer
    calls issued are exactly the canonical call sequence `opsOf v` of the decoded tree -/
theorem c10_transcribe_ops (p : Parser) (hs : Shape p) (root : Root) (v : Value) (md : Nat)
    (hbuf : p.buf = (encode v).toArray) (hpt : p.ptype = rootNum root) (hmd : p.maxDepth = md) (hmd255 : md ≤ 255)
    (hwf : wfDoc root md v = true) (w : Writer) :
    ∃ p', transcribe p w = (p', w.run (opsOf v), true) :=
  transcribe_ops p hs root v md hbuf hpt hmd hmd255 hwf w

/-- any capacity (dry run, too small): the traversal succeeds, the counter is the exact size, RANGE iff it did not fit -/
theorem c10_transcribe_counter (root : Root) (v : Value) (g : Parser) (ha : Alloc g) (md : Nat) (hmd : g.maxDepth = md) (hmd255 : md ≤ 255)
    (hwf : wfDoc root md v = true) (hsz : (encode v).length < 2 ^ 63)
    (m0 : Array UInt8) (cap : Nat) (hm : m0.size = cap) (hcap : cap < 2 ^ 63) :
    ∃ p' w', transcribe (init g (encode v).toArray (rootNum root)).1 (Writer.init m0 cap).1 = (p', w', true) ∧
      w'.used = (encode v).length ∧ w'.fault = false ∧ (w'.err = .range ↔ cap < (encode v).length) ∧
      (w'.err = .none ∨ w'.err = .range) :=
  transcribe_counter root v g ha md hmd hmd255 hwf hsz m0 cap hm hcap

/-- for the bytes of any document verify accepts -/
theorem c10_valid_bytes (g : Parser) (ha : Alloc g) (hmd : g.maxDepth ≤ 255) (buf : Array UInt8) (hsz : buf.size < 2 ^ 63) (root : Root)
    (hi : (init g buf (rootNum root)).2 = true) (hv : (verify (init g buf (rootNum root)).1).2.1 = true)
    (m0 : Array UInt8) (hm : buf.size ≤ m0.size) (hcap : m0.size < 2 ^ 63) :
    ∃ p' w', transcribe (init g buf (rootNum root)).1 (Writer.init m0 m0.size).1 = (p', w', true) ∧
      w'.err = .none ∧ w'.used = buf.size ∧ (w'.mem.extract 0 w'.used).toList = buf.toList := by
  obtain ⟨v, hwf, rfl⟩ := verify_sound_enc g ha hmd buf hsz root hi hv
  have hl : (encode v).toArray.size = (encode v).length := List.size_toArray
  obtain ⟨p', w', h1, _, h3, h4, h5⟩ := transcribe_id root v g ha g.maxDepth rfl hmd hwf (by omega) m0 m0.size rfl (by omega) hcap
  exact ⟨p', w', h1, h3, by omega, h5⟩

/-- non-vacuity: `{"a":-129}` (a two-byte negative integer) -/
example : wfDoc .object 2 (.obj (.cons [0x61] (.int (-129)) .nil)) = true ∧
    encode (.obj (.cons [0x61] (.int (-129)) .nil)) = [0x40, 0x14, 0x01, 0x61, 0x11, 0x7f, 0xff, 0x41] := by decide

end Binson
