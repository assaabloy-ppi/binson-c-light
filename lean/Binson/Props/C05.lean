/-
  C05 — writer output is canonical and round-trips.
  For ANY well-formed value `v` the well-formed write sequence `opsOf v` (balanced begin/end, a name
  before each value inside objects, names ascending) produces exactly `encode v`, the canonical Binson
  encoding (shortest 1/2/4/8-byte two's-complement forms for integers and lengths, doubles as their
  8 IEEE-754 bytes little-endian, text and bytes verbatim); the output is accepted by
  `binson_parser_verify` and `binson_writer_verify` within their depth limits, and decodes to exactly the
  values written.
-/
import Binson.Lemmas.WriterProps
import Binson.Lemmas.Walk
namespace Binson

/-- `_int_pack_size` produces the spec's minimal-width two's complement encoding (integers, and with tags 0x14/0x18 lengths) -/
theorem c05_packInt_eq_encInt (base : UInt8) (v : Int) (h : int64Min ≤ v ∧ v ≤ int64Max) :
    packInt base v = encInt base v :=
  packInt_eq_encInt base v h

/-- the `_write` payloads of the call sequence of `v`, concatenated, are `encode v` -/
theorem c05_pieces_opsOf (v : Value) (h : wfValue v = true) : (allPieces (opsOf v)).flatten = encode v :=
  pieces_opsOf v h

/-- every call in the call sequence of a well-formed value has valid arguments -/
theorem c05_opsOf_valid (v : Value) (h : wfValue v = true) : ∀ op ∈ opsOf v, op.Valid :=
  opsOf_valid v h

/-- writing a well-formed value into a large enough buffer produces exactly `encode v` -/
theorem c05_write_value_encode (v : Value) (h : wfValue v = true) (m0 : Array UInt8)
    (hlen : (encode v).length ≤ m0.size) (hsz : m0.size < 2 ^ 63) :
    let w := (Writer.init m0 m0.size).1.run (opsOf v)
    w.err = .none ∧ w.used = (encode v).length ∧ w.mem.toList.take (encode v).length = encode v :=
  write_value_encode v h m0 hlen hsz

/-- the canonical encoding of a well-formed object document is accepted by `binson_parser_verify`
    (within the depth limit), from any allocated parser object -/
theorem c05_written_verifies (g : Parser) (ha : Alloc g) (hmd : g.maxDepth ≤ 255) (v : Value)
    (hwf : wfDoc .object g.maxDepth v = true) (hsz : (encode v).length < 2 ^ 63) :
    (init g (encode v).toArray 1).2 = true ∧ (verify (init g (encode v).toArray 1).1).2.1 = true :=
  written_verifies g ha hmd v hwf hsz

/-- ... and by `binson_writer_verify` (a depth-10 parser over the bytes written so far) -/
theorem c05_writer_verify_ok (v : Value) (hwf : wfDoc .object 10 v = true) (m0 : Array UInt8)
    (hlen : (encode v).length ≤ m0.size) (hsz : m0.size < 2 ^ 63) :
    writerVerify ((Writer.init m0 m0.size).1.run (opsOf v)) = true :=
  writer_verify_ok v hwf m0 hlen hsz

/-- ... and decodes to exactly the values written: the bytes the writer left, handed to the full
    traversal program (next / get_name / typed getters / go_into / leave), give back exactly `fs` -/
theorem c05_written_decodes (fs : Fields) (hwf : wfDoc .object 10 (.obj fs) = true) (m0 : Array UInt8)
    (hlen : (encode (.obj fs)).length ≤ m0.size) (hsz : m0.size < 2 ^ 63) :
    let w := (Writer.init m0 m0.size).1.run (opsOf (.obj fs))
    cppDeserialize (w.mem.extract 0 w.used) = .ok fs := by
  intro w
  obtain ⟨_, hu, ht⟩ := write_value_encode (.obj fs) (wfValue_of_wfDoc hwf) m0 hlen hsz
  have hb : w.mem.extract 0 w.used = (encode (.obj fs)).toArray := by
    apply Array.ext'
    rw [Array.toList_extract, hu]
    simpa using ht
  rw [hb]
  exact cppDes_valid fs hwf (by omega)

/-- the encoding is unique: two well-formed values with the same bytes are the same value -/
theorem c05_encoding_unique (v v' : Value) (hw : wfValue v = true) (hw' : wfValue v' = true)
    (h : encode v = encode v') : v = v' :=
  encode_injective v v' hw hw' h

end Binson
