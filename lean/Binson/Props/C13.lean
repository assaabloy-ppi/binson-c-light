/-
  C13 — `binson_parser_to_string` obeys its size protocol and never overruns the text buffer.
  Statements are about `_binson_to_string_cb` (`toStringCbV`/`toStringFoldV`, Model/Print.lean) run
  over EVERY list of views (whatever the bytes), for every destination and every claimed capacity.
  Hypotheses: the claimed capacity is really there (`size ≤ mem.size`) and is below 2^63
  (an object size; it makes the mod-2^64 of `_check_boundary` irrelevant). No bound on the lengths
  of names, strings or byte spans, nor on the formatters, is needed.
  The NULL-buffer size query is `size = 0` with `mem = #[]`.
-/
import Binson.Lemmas.ToStringLemmas
import Binson.Lemmas.VerifyValid
import Binson.Props.C14
namespace Binson

/-- the initial context of `binson_parser_to_string` for a destination `mem` and claimed size `size` -/
def ts0 (mem : Array UInt8) (size : Nat) : TSCtx :=
  { size := size, used := 0, pstate := 0, full := false, mem := mem }

theorem ts0_winv (mem : Array UInt8) (size : Nat) : WInv size mem (ts0 mem size) [] :=
  ⟨⟨rfl, rfl, rfl, rfl⟩, rfl, fun h => by simp [ts0] at h, fun _ => rfl⟩

/-- no store leaves the destination (`fault` is the ghost flag for a store outside `mem` or through
    a NULL destination), the destination keeps its size, and nothing at or beyond the claimed
    capacity is modified -/
theorem to_string_no_overrun (F : Fmts) (vs : List EvView) (mem : Array UInt8) (size : Nat)
    (h : size ≤ mem.size) (hs : size < 2 ^ 63) :
    (toStringFoldV F (ts0 mem size) vs).fault = false ∧
    (toStringFoldV F (ts0 mem size) vs).mem.size = mem.size ∧
    (toStringFoldV F (ts0 mem size) vs).mem.toList.drop size = mem.toList.drop size := by
  have hw := (fold_inv h hs F vs _ _ (ts0_winv mem size)).1
  exact ⟨hw.safe.fault, hw.safe.msize, hw.safe.tail⟩

/-- the size protocol. `t` is the text the stdout callback prints for the same views.
    `used` always counts the full text and `pstate` is the stdout callback's; `full` is raised only
    if text plus NUL do not fit, and whenever they fit the destination starts with the text.
    After at least one callback `full` is exact and the text is NUL-terminated.
    (For `vs = []` nothing is stored and `full` stays false even when `size = 0`.) -/
theorem to_string_ctx (F : Fmts) (vs : List EvView) (mem : Array UInt8) (size : Nat)
    (h : size ≤ mem.size) (hs : size < 2 ^ 63) :
    let c := toStringFoldV F (ts0 mem size) vs
    let t := printFoldV F 0 vs
    c.size = size ∧ c.used = t.length ∧ c.pstate = psFoldV F 0 vs ∧
    (c.full = true → size ≤ t.length) ∧
    (t.length < size → c.mem.toList.take t.length = t) ∧
    (vs ≠ [] → (c.full = true ↔ size ≤ t.length) ∧
      (c.full = false → c.mem.toList.take (t.length + 1) = t ++ [0])) := by
  intro c t
  have hw := fold_inv h hs F vs _ _ (ts0_winv mem size)
  simp only [List.nil_append] at hw
  refine ⟨hw.1.safe.hsize, hw.1.used, hw.2.1, hw.1.full, hw.1.cont, fun hne => ?_⟩
  have hsv := hw.2.2 (Or.inl hne)
  exact ⟨⟨hsv.w.full, hsv.fullIff⟩, fun hnf => hsv.contNul (Nat.lt_of_not_le fun hge =>
    Bool.noConfusion ((hsv.fullIff hge).symm.trans hnf))⟩

/-- the two clauses that need a callback really do: with no callback and `size = 0`
    (the NULL query) `full` is not raised, and with `size = 1` no NUL is stored -/
example (F : Fmts) : (toStringFoldV F (ts0 #[] 0) []).full = false ∧ 0 ≤ (printFoldV F 0 []).length :=
  ⟨rfl, Nat.le_refl _⟩
example (F : Fmts) : (toStringFoldV F (ts0 #[1] 1) []).mem.toList.take 1 ≠ printFoldV F 0 [] ++ [0] := by
  show [(1 : UInt8)] ≠ [0]
  decide

/-- C13 and C14 together: for the views of a value the counted text is the reference rendering,
    `full` is raised iff rendering plus NUL exceed the claimed capacity, otherwise the destination
    holds the rendering followed by NUL; and nothing outside the capacity is touched -/
theorem to_string_text (F : Fmts) (v : Value) (mem : Array UInt8) (size : Nat)
    (h : size ≤ mem.size) (hs : size < 2 ^ 63) :
    let c := toStringFoldV F (ts0 mem size) (viewsOf 0 v)
    let n := (render F v).length
    c.used = n ∧ (c.full = true ↔ size ≤ n) ∧
    (n < size → c.mem.toList.take (n + 1) = render F v ++ [0]) ∧
    c.fault = false ∧ c.mem.size = mem.size ∧ c.mem.toList.drop size = mem.toList.drop size := by
  intro c n
  have hne : viewsOf 0 v ≠ [] := by cases v <;> simp [viewsOf]
  have hc := to_string_ctx F (viewsOf 0 v) mem size h hs
  have ho := to_string_no_overrun F (viewsOf 0 v) mem size h hs
  simp only [text_eq_render] at hc
  obtain ⟨-, hused, -, -, -, hx⟩ := hc
  obtain ⟨hiff, hnul⟩ := hx hne
  exact ⟨hused, hiff, fun hlt => hnul (Bool.eq_false_iff.2 fun hf => Nat.not_le.2 hlt (hiff.1 hf)), ho⟩

/-- the size query (`pbuf == NULL`: capacity 0, no destination): nothing is stored, `used` is the
    length of the rendering and `full` is raised, so the API reports `used + 1` bytes needed -/
theorem to_string_query (F : Fmts) (v : Value) :
    let c := toStringFoldV F (ts0 #[] 0) (viewsOf 0 v)
    c.used = (render F v).length ∧ c.full = true ∧ c.fault = false ∧ c.mem = #[] := by
  intro c
  have ht := to_string_text F v #[] 0 (Nat.le_refl _) (by decide)
  obtain ⟨hu, hf, -, hfa, hsz, -⟩ := ht
  refine ⟨hu, hf.2 (Nat.zero_le _), hfa, ?_⟩
  exact Array.eq_empty_of_size_eq_zero hsz

theorem toString_unfold (F : Fmts) (p : Parser) (mem : Option (Array UInt8)) (size : Nat) :
    toString' F p mem size =
      (if (verify p).2.1 && !(toStringFold F p.buf (ts0 (mem.getD #[]) (if mem.isNone then 0 else size)) (verify p).2.2).full then
        ((verify p).1, true, (toStringFold F p.buf (ts0 (mem.getD #[]) (if mem.isNone then 0 else size)) (verify p).2.2).used,
          (toStringFold F p.buf (ts0 (mem.getD #[]) (if mem.isNone then 0 else size)) (verify p).2.2).mem,
          (toStringFold F p.buf (ts0 (mem.getD #[]) (if mem.isNone then 0 else size)) (verify p).2.2).fault)
      else
        ((verify p).1, false, (toStringFold F p.buf (ts0 (mem.getD #[]) (if mem.isNone then 0 else size)) (verify p).2.2).used + 1,
          (toStringFold F p.buf (ts0 (mem.getD #[]) (if mem.isNone then 0 else size)) (verify p).2.2).mem,
          (toStringFold F p.buf (ts0 (mem.getD #[]) (if mem.isNone then 0 else size)) (verify p).2.2).fault)) := rfl

/-- the destination and capacity the callbacks really get (`#[]` and 0 for the NULL query): the capacity
    is there, and it is either the caller's `size` or the whole (empty) destination -/
private theorem effective_dest (mem : Option (Array UInt8)) (size : Nat) (h : ∀ m, mem = some m → size ≤ m.size) :
    (if mem.isNone then 0 else size) ≤ (mem.getD #[]).size ∧ (if mem.isNone then 0 else size) ≤ size ∧
    ((mem.getD #[]).size ≤ (if mem.isNone then 0 else size) ∨ (if mem.isNone then 0 else size) = size) := by
  cases mem with
  | none => exact ⟨Nat.le_refl _, Nat.zero_le _, Or.inl (Nat.le_refl _)⟩
  | some m => exact ⟨h m rfl, Nat.le_refl _, Or.inr rfl⟩

/-- `toString'` through the context `c` the callbacks leave: it returns true iff verify did and
    `buffer_full` is not set, and reports `c.used`, plus one when it returns false -/
private theorem toString_eq (F : Fmts) (p : Parser) (mem : Option (Array UInt8)) (size : Nat) (c : TSCtx)
    (hc : toStringFold F p.buf (ts0 (mem.getD #[]) (if mem.isNone then 0 else size)) (verify p).2.2 = c) :
    toString' F p mem size =
      ((verify p).1, (verify p).2.1 && !c.full, c.used + (if (verify p).2.1 && !c.full then 0 else 1),
        c.mem, c.fault) := by
  rw [toString_unfold, hc]
  cases (verify p).2.1 && !c.full <;> rfl

/-- the API function itself (`toString'`: parser, return value, new `*buf_size`, destination, fault),
    whatever the parser state and whatever `verify` logs: no fault, the destination keeps its size,
    nothing at or beyond the claimed capacity changes, and the reported size is the length of the text
    the stdout callback prints for the same log — plus one (room for the NUL) when it returns false -/
theorem to_string_api (F : Fmts) (p : Parser) (mem : Option (Array UInt8)) (size : Nat)
    (h : ∀ m, mem = some m → size ≤ m.size) (hs : size < 2 ^ 63) :
    let r := toString' F p mem size
    let t := printFold F p.buf 0 (verify p).2.2
    r.2.2.2.2 = false ∧ r.2.2.2.1.size = (mem.getD #[]).size ∧
    r.2.2.2.1.toList.drop size = (mem.getD #[]).toList.drop size ∧
    r.2.2.1 = t.length + (if r.2.1 then 0 else 1) := by
  intro r t
  obtain ⟨h1, h3, h4⟩ := effective_dest mem size h
  have hs' := Nat.lt_of_le_of_lt h3 hs
  obtain ⟨c, hc⟩ : ∃ c, toStringFold F p.buf (ts0 (mem.getD #[]) (if mem.isNone then 0 else size)) (verify p).2.2 = c :=
    ⟨_, rfl⟩
  have ho : c.fault = false ∧ c.mem.size = (mem.getD #[]).size ∧
      c.mem.toList.drop (if mem.isNone then 0 else size) = (mem.getD #[]).toList.drop (if mem.isNone then 0 else size) :=
    hc ▸ to_string_no_overrun F ((verify p).2.2.map (view p.buf)) _ _ h1 hs'
  have hu : c.used = t.length := hc ▸ (to_string_ctx F ((verify p).2.2.map (view p.buf)) _ _ h1 hs').2.1
  have hdrop : c.mem.toList.drop size = (mem.getD #[]).toList.drop size := by
    rcases h4 with h4 | h4
    · -- the whole destination lies below `size`
      rw [List.drop_of_length_le (by rw [Array.length_toList, ho.2.1]; exact Nat.le_trans h4 h3),
        List.drop_of_length_le (by rw [Array.length_toList]; exact Nat.le_trans h4 h3)]
    · rw [h4] at ho
      exact ho.2.2
  show (toString' F p mem size).2.2.2.2 = false ∧ (toString' F p mem size).2.2.2.1.size = _ ∧
    (toString' F p mem size).2.2.2.1.toList.drop size = _ ∧
    (toString' F p mem size).2.2.1 = t.length + (if (toString' F p mem size).2.1 then 0 else 1)
  rw [toString_eq F p mem size c hc]
  exact ⟨ho.1, ho.2.1, hdrop, congrArg (· + _) hu⟩

/-- `{"A":{},"B":[1,{}]}` into a 64-byte destination of which 32 bytes are claimed -/
example (F : Fmts) :
    let c := toStringFoldV F (ts0 (Array.replicate 64 0) 32) (viewsOf 0 c14Sample)
    c.used = (render F c14Sample).length ∧ (c.full = true ↔ 32 ≤ (render F c14Sample).length) ∧
    c.fault = false ∧ c.mem.toList.drop 32 = List.replicate 32 0 := by
  have := to_string_text F c14Sample (Array.replicate 64 0) 32 (by simp) (by decide)
  refine ⟨this.1, this.2.1, this.2.2.2.1, ?_⟩
  rw [this.2.2.2.2.2]
  decide

/-- C13, the size protocol on valid documents, end to end (init + `binson_parser_to_string` of the
    model, from any allocated parser object): with a NULL or too small buffer the call returns false
    and reports `text length + 1`, the same number for every capacity; with a buffer of at least that
    size it returns true, stores the text followed by NUL and reports the text length. -/
theorem to_string_protocol (F : Fmts) (g : Parser) (ha : Alloc g) (hmd : g.maxDepth ≤ 255) (root : Root) (v : Value)
    (hwf : wfDoc root g.maxDepth v = true) (hsz : (encode v).length < 2 ^ 63)
    (mem : Option (Array UInt8)) (size : Nat) (h : ∀ m, mem = some m → size ≤ m.size) (hs : size < 2 ^ 63) :
    let p := (init g (encode v).toArray (rootNum root)).1
    let n := (render F v).length
    let r := toString' F p mem size
    ((mem = none ∨ size ≤ n) → r.2.1 = false ∧ r.2.2.1 = n + 1) ∧
    (∀ m, mem = some m → n < size → r.2.1 = true ∧ r.2.2.1 = n ∧ r.2.2.2.1.toList.take (n + 1) = render F v ++ [0]) ∧
    r.2.2.2.2 = false := by
  intro p n r
  obtain ⟨_, hF, hvt, hvv⟩ := verify_wellformed g ha hmd root v hwf hsz
  obtain ⟨h1, h3, _⟩ := effective_dest mem size h
  have ht := to_string_text F v _ _ h1 (Nat.lt_of_le_of_lt h3 hs)
  have hc : toStringFold F p.buf (ts0 (mem.getD #[]) (if mem.isNone then 0 else size)) (verify p).2.2 =
      toStringFoldV F (ts0 (mem.getD #[]) (if mem.isNone then 0 else size)) (viewsOf 0 v) := by
    unfold toStringFold
    rw [show p.buf = (encode v).toArray from hF.buf, hvv]
  have hr : r = _ := toString_eq F p mem size _ hc
  rw [show (verify p).2.1 = true from hvt, Bool.true_and] at hr
  generalize toStringFoldV F (ts0 (mem.getD #[]) (if mem.isNone then 0 else size)) (viewsOf 0 v) = c at ht hr
  obtain ⟨hu, hfull, hnul, hfault, -, -⟩ := ht
  clear_value r
  subst hr
  refine ⟨fun hcase => ?_, fun m hm hlt => ?_, hfault⟩
  · -- the effective capacity (0 for the NULL query) does not exceed the text length
    have hle : (if mem.isNone then 0 else size) ≤ n := by
      rcases hcase with rfl | hc
      · exact Nat.zero_le _
      · exact Nat.le_trans h3 hc
    show (!c.full) = false ∧ c.used + (if !c.full then 0 else 1) = n + 1
    rw [hfull.2 hle, hu]
    exact ⟨rfl, rfl⟩
  · subst hm
    have hnf : c.full = false := Bool.eq_false_iff.2 fun hf => Nat.not_le.2 hlt (hfull.1 hf)
    show (!c.full) = true ∧ c.used + (if !c.full then 0 else 1) = n ∧ c.mem.toList.take (n + 1) = _
    rw [hnf, hu]
    exact ⟨rfl, rfl, hnul hlt⟩

/-- "it returns false for invalid documents": whatever the bytes and the parser state, when verify
    rejects, `binson_parser_to_string` returns false (and by `to_string_api` still stores nothing at or
    beyond the capacity) -/
theorem to_string_invalid (F : Fmts) (p : Parser) (mem : Option (Array UInt8)) (size : Nat)
    (hv : (verify p).2.1 = false) : (toString' F p mem size).2.1 = false := by
  unfold toString'
  simp [hv]

end Binson
