/-
  C06 — cursor navigation (next / enter / skip / leave / get_raw / lookups) matches the document
  structure.

  `c06_navigation_refines`: on EVERY valid document (object- or array-rooted, any max_depth ≤ 255,
  from whatever the parser object held before init) and for EVERY protocol-following call sequence
  of ANY length, each call's observable result equals that of the reference cursor over the decoded
  tree (Spec/Cursor.lean, which knows nothing of flags, scan modes or state entries):
    * the return value (a container that is not entered is skipped as one element; no element is
      lost, repeated or reordered — the cursor hands out the children of the decoded tree in order);
    * leaving from any position lands just after the container (the cursor's frame is popped);
    * get_depth = number of object frames (+1 for an array root): moves by exactly one per object
      entered or left;
    * no error is raised, no out-of-bounds access, no fuel exhaustion (ghost flags);
    * after every successful next / lookup all getters match the decoded item (`ItemMatches`).
  `NavOk` (Lemmas/NavDefs.lean) is that statement, by recursion on the call list; "protocol-
  following" is `Cursor.allowed`: enter only a container that next/lookup/init has just returned,
  leave only the kind of container one is in, look up only inside an object, get_raw on a current item.
  Proof: an agreement relation between machine state and cursor preserved by every allowed call
  (Lemmas/Nav*.lean), skipping by the mode-generic pass-through lemma.
-/
import Binson.Lemmas.Nav
import Binson.Lemmas.VerifySound
namespace Binson

theorem c06_navigation_refines (g : Parser) (ha : Alloc g) (hmd : g.maxDepth ≤ 255) (root : Root) (v : Value)
    (hwf : wfDoc root g.maxDepth v = true) (hsz : (encode v).length < 2 ^ 63) (ops : List COp) :
    NavOk (init g (encode v).toArray (rootNum root)).1 (Cursor.start root v) ops :=
  nav_refines g ha hmd root v hwf hsz ops

/-- the same for the bytes of any document verify accepts (by `verify_iff` they are `encode v`) -/
theorem c06_navigation_refines_bytes (g : Parser) (ha : Alloc g) (hmd : g.maxDepth ≤ 255) (buf : Array UInt8) (hsz : buf.size < 2 ^ 63)
    (root : Root) (hi : (init g buf (rootNum root)).2 = true) (hv : (verify (init g buf (rootNum root)).1).2.1 = true) (ops : List COp) :
    ∃ v, wfDoc root g.maxDepth v = true ∧ encode v = buf.toList ∧
      NavOk (init g buf (rootNum root)).1 (Cursor.start root v) ops := by
  obtain ⟨v, hwf, rfl⟩ := verify_sound_enc g ha hmd buf hsz root hi hv
  exact ⟨v, hwf, rfl, nav_refines g ha hmd root v hwf (by simpa using hsz) ops⟩

/-- one step spelled out: what `NavOk` gives for the first call of a sequence -/
theorem c06_first_call (p : Parser) (c : Cursor) (op : COp) (ops : List COp) (h : NavOk p c (op :: ops)) (ha : c.allowed op = true) :
    (machNav p op).2.1 = (c.step op).2.ok ∧ (machNav p op).1.err = .none ∧
    getDepth (machNav p op).1 = (c.step op).1.depth ∧ NavOk (machNav p op).1 (c.step op).1 ops := by
  have := h ha
  exact ⟨this.1, this.2.2.1, this.2.2.2.2.2.1, this.2.2.2.2.2.2.2⟩

/-- non-vacuity: the defect history of the pinned tree, `[[{}],{},5]` with go_into_array, next,
    go_into_array, leave_array, next — every call is allowed by the protocol, and the last `next`
    must return the `{}` element (an object), not the integer -/
example :
    let v : Value := .arr (.cons (.arr (.cons (.obj .nil) .nil)) (.cons (.obj .nil) (.cons (.int 5) .nil)))
    let ops : List COp := [.enterArr, .next, .enterArr, .leaveArr]
    let c := ops.foldl (fun c op => (c.step op).1) (Cursor.start .array v)
    (ops.foldl (fun (acc : Bool × Cursor) op => (acc.1 && acc.2.allowed op, (acc.2.step op).1)) (true, Cursor.start .array v)).1 = true ∧
    c.allowed .next = true ∧ ((c.step .next).2.item.map (·.ty)) = some .object := by
  decide

end Binson
